/-
  Raster index arithmetic: pixel `p` of an image with `nx` columns sits in row `p / nx`, column `p % nx`.
-/
namespace PhotVerif

theorem idx_lt (ny nx y x : Nat) (hy : y < ny) (hx : x < nx) : y * nx + x < ny * nx :=
  calc y * nx + x < (y + 1) * nx := by rw [Nat.succ_mul]; omega
    _ ≤ ny * nx := Nat.mul_le_mul_right nx hy

theorem idx_div (nx y x : Nat) (hx : x < nx) : (y * nx + x) / nx = y := by
  rw [Nat.mul_comm, Nat.mul_add_div (by omega), Nat.div_eq_of_lt hx, Nat.add_zero]

theorem idx_mod (nx y x : Nat) (hx : x < nx) : (y * nx + x) % nx = x :=
  Nat.mul_add_mod_of_lt hx

theorem row_col_lt {ny nx p : Nat} (hp : p < ny * nx) : p / nx < ny ∧ p % nx < nx :=
  ⟨Nat.div_lt_of_lt_mul (Nat.mul_comm .. ▸ hp), Nat.mod_lt _ (Nat.pos_of_lt_mul_left hp)⟩

end PhotVerif
