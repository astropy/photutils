/-
  `Render.window1` (one axis of `overlap_slices(..., mode='trim')`) read through the integer `c = ceil(pos − small/2)`.
-/
import PhotVerif.Model.Render

namespace PhotVerif.Model.Render

/-- when there is a window, and which; `hc` lets a caller name the ceiling or put an equal integer in its place -/
theorem window1_eq_some_iff {large small : Nat} {pos : Rat} {c : Int} (hc : (pos - (small : Rat) / 2).ceil = c) {a b : Nat} :
    window1 large small pos = some (a, b) ↔
      ¬ (c + small < 0 ∨ (c + small = 0 ∧ small ≠ 0) ∨ c ≥ large) ∧
        (max 0 c).toNat = a ∧ (min (large : Int) (c + small)).toNat = b := by
  subst hc
  simp only [window1, Option.ite_none_left_eq_some, Option.some.injEq, Prod.mk.injEq]

end PhotVerif.Model.Render
