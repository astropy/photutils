/-
  A matrix of bits held in one natural number: with stride `s`, row `v` is the bits `v*s .. v*s + s - 1`.
  Reading a row, replacing a row, the row-wise union (`|||`) and the row-wise inclusion test
  (`N ||| M == M`) are a few shifts, xors and ors each, which the kernel evaluates on literals with
  its big-number primitives.  The lemmas say what these do to each row, so that a user never computes with bit positions.
-/
namespace PhotVerif.EffectsBits

def row (s N v : Nat) : Nat := (N >>> (v * s)) % 2 ^ s

/-- the matrix `N` with row `d` replaced by `m` (meant for `m < 2 ^ s`) -/
def setRow (s N d m : Nat) : Nat := N ^^^ ((row s N d ^^^ m) <<< (d * s))

theorem row_lt (s N v : Nat) : row s N v < 2 ^ s := Nat.mod_lt _ (Nat.two_pow_pos s)

theorem testBit_row (s N v b : Nat) : (row s N v).testBit b = (decide (b < s) && N.testBit (v * s + b)) := by
  rw [row, Nat.testBit_mod_two_pow, Nat.testBit_shiftRight]

theorem row_or (s N M v : Nat) : row s (N ||| M) v = row s N v ||| row s M v := by
  rw [row, Nat.shiftRight_or_distrib, Nat.or_mod_two_pow]; rfl

theorem row_xor (s N M v : Nat) : row s (N ^^^ M) v = row s N v ^^^ row s M v := by
  rw [row, Nat.shiftRight_xor_distrib, Nat.xor_mod_two_pow]; rfl

/-- a matrix whose only non-zero row is row `d` -/
theorem row_shiftLeft {s m : Nat} (hm : m < 2 ^ s) (d v : Nat) :
    row s (m <<< (d * s)) v = if v = d then m else 0 := by
  split
  · subst v; rw [row, Nat.shiftLeft_shiftRight, Nat.mod_eq_of_lt hm]
  · refine Nat.eq_of_testBit_eq fun b => ?_
    rw [testBit_row, Nat.testBit_shiftLeft, Nat.zero_testBit]
    have rows {a c : Nat} (h : a < c) : a * s + s ≤ c * s := Nat.succ_mul a s ▸ Nat.mul_le_mul_right s h
    rcases Nat.lt_or_gt_of_ne ‹v ≠ d› with h | h
    · -- for `b < s` the bit lies below row `d`
      have := rows h
      by_cases hb : b < s
      · simp [show ¬ v * s + b ≥ d * s by omega]
      · simp [hb]
    · -- the bit lies at least `s` above the start of row `d`, beyond the width of `m`
      have := rows h
      rw [Nat.testBit_lt_two_pow (Nat.lt_of_lt_of_le hm (Nat.pow_le_pow_right Nat.two_pos (by omega)))]
      simp

theorem row_setRow {s m : Nat} (hm : m < 2 ^ s) (N d v : Nat) :
    row s (setRow s N d m) v = if v = d then m else row s N v := by
  rw [setRow, row_xor, row_shiftLeft (Nat.xor_lt_two_pow (row_lt s N d) hm)]
  split
  · subst v; rw [← Nat.xor_assoc, Nat.xor_self, Nat.zero_xor]
  · rw [Nat.xor_zero]

/-- with a positive stride every bit lies in some row, so the rows determine the matrix -/
theorem eq_iff_row_eq {s : Nat} (hs : 0 < s) {N M : Nat} : N = M ↔ ∀ v, row s N v = row s M v := by
  refine ⟨fun h _ => h ▸ rfl, fun h => Nat.eq_of_testBit_eq fun i => ?_⟩
  have := congrArg (Nat.testBit · (i % s)) (h (i / s))
  simpa only [testBit_row, Nat.mod_lt i hs, Nat.div_add_mod', decide_true, Bool.true_and] using this

theorem or_eq_right_iff {x y : Nat} : x ||| y = y ↔ ∀ i, x.testBit i = true → y.testBit i = true := by
  simp only [Nat.eq_iff_testBit_eq, Nat.testBit_or, Bool.or_eq_right_iff_imp]

theorem eq_zero_iff {x : Nat} : x = 0 ↔ ∀ i, x.testBit i = false := by
  simp only [Nat.eq_iff_testBit_eq, Nat.zero_testBit]

end PhotVerif.EffectsBits
