/-
  Equations for the definitions translated from photutils/aperture/bounding_box.py (Gen/BBox.lean): Python's two-argument
  `min`/`max` on integers are `min`/`max` (so `omega` decides goals about them), `BoundingBox.__init__` succeeds exactly on
  ordered bounds, and `from_float`, `get_overlap_slices`, `union`, `intersection` in closed form.
-/
import PhotVerif.Gen.BBox
import PhotVerif.Proofs.FieldInst

namespace PhotVerif.Gen
open PhotVerif

theorem pymax_eq_max (a b : Int) : pymax a b = max a b := by unfold pymax; split <;> omega
theorem pymin_eq_min (a b : Int) : pymin a b = min a b := by unfold pymin; split <;> omega

theorem BBox.init_eq (a b c d : Int) :
    BBox.init a b c d = if a ≤ b ∧ c ≤ d then .ok ⟨a, b, c, d⟩ else .error Err.ValueError := by
  unfold BBox.init
  split_ifs <;> first | rfl | omega

theorem BBox.init_ok {a b c d : Int} (h1 : a ≤ b) (h2 : c ≤ d) : BBox.init a b c d = .ok ⟨a, b, c, d⟩ := by
  rw [init_eq, if_pos ⟨h1, h2⟩]

/-- over an ordered field with a floor function, `from_float` is `__init__` of the edges rounded outwards to pixel borders -/
theorem BBox.fromFloat_eq {α : Type} [Field α] [LinearOrder α] [IsStrictOrderedRing α] [FloorRing α] [MathOps α]
    (xmin xmax ymin ymax : α) :
    BBox.fromFloat xmin xmax ymin ymax = BBox.init ⌊xmin + 0.5⌋ ⌈xmax + 0.5⌉ ⌊ymin + 0.5⌋ ⌈ymax + 0.5⌉ := rfl

/-- `get_overlap_slices` never raises; it returns `None` when the box misses the image, and otherwise the slices into the
    image (y, x) and those into the box's own frame, which are the former re-based to the box origin -/
theorem BBox.getOverlapSlices_eq (b : BBox) (ny nx : Int) :
    b.getOverlapSlices (ny, nx) = .ok (if nx ≤ b.ixmin ∨ ny ≤ b.iymin ∨ b.ixmax ≤ 0 ∨ b.iymax ≤ 0 then none else some
      ((⟨max b.iymin 0, min b.iymax ny⟩, ⟨max b.ixmin 0, min b.ixmax nx⟩),
       (⟨max b.iymin 0 - b.iymin, min b.iymax ny - b.iymin⟩, ⟨max b.ixmin 0 - b.ixmin, min b.ixmax nx - b.ixmin⟩))) := by
  simp only [BBox.getOverlapSlices, ne_eq, not_true_eq_false, if_false, ge_iff_le, pymax_eq_max, pymin_eq_min]
  split
  · rfl
  · -- the source clips `-ymin` and `ymax - ymin` afresh; written as a shift of the image slices, index arithmetic about
    -- the two pairs is linear in the same four atoms
    simp only [Except.ok.injEq, Option.some.injEq, Prod.mk.injEq, Slc.mk.injEq, true_and]
    omega

theorem BBox.getOverlapSlices_none_iff (b : BBox) (ny nx : Int) :
    b.getOverlapSlices (ny, nx) = .ok none ↔ (nx ≤ b.ixmin ∨ ny ≤ b.iymin ∨ b.ixmax ≤ 0 ∨ b.iymax ≤ 0) := by
  simp only [getOverlapSlices_eq, Except.ok.injEq, ite_eq_left_iff, reduceCtorEq, imp_false, not_not]

theorem BBox.getOverlapSlices_some {b : BBox} {ny nx : Int} {L S : Slc × Slc}
    (h : b.getOverlapSlices (ny, nx) = .ok (some (L, S))) :
    L = (⟨max b.iymin 0, min b.iymax ny⟩, ⟨max b.ixmin 0, min b.ixmax nx⟩) ∧
    S = (⟨max b.iymin 0 - b.iymin, min b.iymax ny - b.iymin⟩, ⟨max b.ixmin 0 - b.ixmin, min b.ixmax nx - b.ixmin⟩) := by
  rw [getOverlapSlices_eq] at h
  split at h <;> cases h
  exact ⟨rfl, rfl⟩

theorem BBox.union_eq (a b : BBox) : a.union b =
    BBox.init (min a.ixmin b.ixmin) (max a.ixmax b.ixmax) (min a.iymin b.iymin) (max a.iymax b.iymax) := by
  simp only [BBox.union, pymin_eq_min, pymax_eq_max]

theorem BBox.intersection_eq (a b : BBox) : a.intersection b =
    .ok (if min a.ixmax b.ixmax < max a.ixmin b.ixmin ∨ min a.iymax b.iymax < max a.iymin b.iymin then none else
      some ⟨max a.ixmin b.ixmin, min a.ixmax b.ixmax, max a.iymin b.iymin, min a.iymax b.iymax⟩) := by
  simp only [BBox.intersection, pymin_eq_min, pymax_eq_max]
  split
  · rfl
  · rw [init_ok (by omega) (by omega)]

end PhotVerif.Gen
