/-
  Loop lemmas for `forRange` (the translation of `for i in range(n)`).
-/
import PhotVerif.Model.Prelude
import Mathlib.Tactic.Ring

namespace PhotVerif

theorem forRange_zero {σ : Type} (init : σ) (f : Nat → σ → σ) : forRange 0 init f = init := rfl

theorem forRange_succ {σ : Type} (n : Nat) (init : σ) (f : Nat → σ → σ) :
    forRange (n + 1) init f = f n (forRange n init f) := by
  simp [forRange, List.range_succ]

/-- a loop that advances a coordinate by a fixed step and adds to a counter a number `g` of the new coordinate
    (the result of an inner loop, or 1 or 0 as a test decides): closed form of the final state -/
theorem sum_loop {α : Type} [Field α] (n : Nat) (x0 dx : α) (g : α → Nat)
    (c0 : α) (f : Nat → α × α → α × α)
    (hf : ∀ i x c, f i (x, c) = (x + dx, c + (g (x + dx) : α))) :
    forRange n (x0, c0) f
      = (x0 + n * dx, c0 + (((List.range n).map (fun (i : Nat) => g (x0 + ((i : α) + 1) * dx))).sum : Nat)) := by
  induction n with
  | zero => simp [forRange_zero]
  | succ n ih =>
    have e : x0 + (n : α) * dx + dx = x0 + ((n : α) + 1) * dx := by ring
    rw [forRange_succ, ih, hf, e, List.range_succ, List.map_append, List.sum_append]
    simp [add_assoc]

theorem countP_eq_sum {ι : Type} (p : ι → Bool) (l : List ι) :
    l.countP p = (l.map fun a => if p a then 1 else 0).sum := by
  induction l with
  | nil => rfl
  | cons a l ih => rw [List.countP_cons, ih, List.map_cons, List.sum_cons, Nat.add_comm]

end PhotVerif
