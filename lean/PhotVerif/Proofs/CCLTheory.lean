/-
  Abstract theory of labelling by min-propagation on a finite symmetric graph (core Lean).
  A *sound fixpoint* assigns to every foreground vertex the least vertex of its component;
  `run`, started from the identity table with fuel above the initial potential, ends in one.
-/
import PhotVerif.Model.CCL

namespace PhotVerif.CCLTheory
open PhotVerif.Model.CCL

structure Graph where
  n : Nat
  fg : Nat → Bool
  nbrs : Nat → List Nat            -- foreground neighbours of a vertex
  nbrs_fg : ∀ p q, q ∈ nbrs p → fg q = true ∧ q < n
  nbrs_symm : ∀ p q, fg p = true → p < n → q ∈ nbrs p → p ∈ nbrs q

variable (G : Graph)

/-- reachability through foreground neighbours -/
inductive Reach : Nat → Nat → Prop
  | refl (p) : Reach p p
  | step {p q r} : Reach p q → r ∈ G.nbrs q → Reach p r

theorem Reach.trans {G : Graph} {a b c : Nat} (h1 : Reach G a b) (h2 : Reach G b c) : Reach G a c := by
  induction h2 with
  | refl => exact h1
  | step _ hr ih => exact Reach.step ih hr

theorem reach_symm {p m : Nat} (hp : p < G.n) (hfg : G.fg p = true) (hr : Reach G p m) :
    Reach G m p ∧ m < G.n ∧ G.fg m = true := by
  induction hr with
  | refl => exact ⟨Reach.refl _, hp, hfg⟩
  | @step q r _ hmem ih =>
    obtain ⟨hqp, hq, hf⟩ := ih
    have ⟨hf', hn'⟩ := G.nbrs_fg _ _ hmem
    exact ⟨((Reach.refl r).step (G.nbrs_symm q r hf hq hmem)).trans hqp, hn', hf'⟩

/-- `foldMin v d l` is `(d :: l.map v).min?` -/
theorem foldMin_spec (v : Nat → Nat) (d : Nat) (l : List Nat) :
    foldMin v d l ∈ d :: l.map v ∧ ∀ b ∈ d :: l.map v, foldMin v d l ≤ b :=
  List.min?_eq_some_iff.mp (by rw [List.min?_cons', List.foldl_map]; rfl)

theorem newval_le (fg : Nat → Bool) (nb : Nat → List Nat) (v : Nat → Nat) (p : Nat) : newval fg nb v p ≤ v p := by
  unfold newval
  split
  · exact (foldMin_spec v _ _).2 _ List.mem_cons_self
  · exact Nat.le_refl _

def IsFix (v : Nat → Nat) : Prop := ∀ p, p < G.n → newval G.fg G.nbrs v p = v p

/-- invariant: the value of a foreground vertex is a vertex reachable from it, not larger than it -/
def Sound (v : Nat → Nat) : Prop := ∀ p, p < G.n → G.fg p = true → Reach G p (v p) ∧ v p ≤ p

theorem sound_id : Sound G (fun p => p) := fun p _ _ => ⟨Reach.refl p, Nat.le_refl p⟩

theorem sound_step {v : Nat → Nat} (h : Sound G v) : Sound G (newval G.fg G.nbrs v) := by
  intro p hp hfg
  have ⟨hr, hle⟩ := h p hp hfg
  refine ⟨?_, Nat.le_trans (newval_le _ _ v p) hle⟩
  simp only [newval, hfg, if_true]
  rcases List.mem_cons.mp (foldMin_spec v (v p) (G.nbrs p)).1 with he | hm
  · rw [he]; exact hr
  · obtain ⟨q, hq, he⟩ := List.mem_map.mp hm
    have ⟨hqfg, hqn⟩ := G.nbrs_fg p q hq
    rw [← he]; exact ((Reach.refl p).step hq).trans (h q hqn hqfg).1

theorem fix_le_nbr {v : Nat → Nat} (hfix : IsFix G v) {p q : Nat} (hp : p < G.n) (hfg : G.fg p = true)
    (hq : q ∈ G.nbrs p) : v p ≤ v q := by
  have := hfix p hp
  simp only [newval, hfg, if_true] at this
  rw [← this]
  exact (foldMin_spec v _ _).2 _ (List.mem_cons_of_mem _ (List.mem_map_of_mem hq))

theorem fix_reach_eq {v : Nat → Nat} (hfix : IsFix G v) {p m : Nat} (hp : p < G.n) (hfg : G.fg p = true)
    (hr : Reach G p m) : v p = v m := by
  induction hr with
  | refl => rfl
  | @step q r hpq hmem ih =>
    have ⟨_, hq, hf⟩ := reach_symm G hp hfg hpq
    have ⟨hf', hr'⟩ := G.nbrs_fg q r hmem
    exact ih.trans (Nat.le_antisymm (fix_le_nbr G hfix hq hf hmem)
      (fix_le_nbr G hfix hr' hf' (G.nbrs_symm q r hf hq hmem)))

/-- at a sound fixpoint, the value is the least vertex of the component -/
theorem fix_value_is_min (v : Nat → Nat) (hfix : IsFix G v) (hs : Sound G v)
    (p : Nat) (hp : p < G.n) (hfg : G.fg p = true) :
    Reach G p (v p) ∧ ∀ m, Reach G p m → v p ≤ m := by
  refine ⟨(hs p hp hfg).1, fun m hr => ?_⟩
  have ⟨_, hn, hf⟩ := reach_symm G hp hfg hr
  rw [fix_reach_eq G hfix hp hfg hr]; exact (hs m hn hf).2

/-- at a sound fixpoint, equal values characterise connectivity -/
theorem fix_same_value_iff_connected (v : Nat → Nat) (hfix : IsFix G v) (hs : Sound G v)
    (p q : Nat) (hp : p < G.n) (hq : q < G.n) (hfp : G.fg p = true) (hfq : G.fg q = true) :
    v p = v q ↔ Reach G p q := by
  refine ⟨fun h => ?_, fix_reach_eq G hfix hp hfp⟩
  have h2 := (hs q hq hfq).1
  rw [← h] at h2
  exact (hs p hp hfp).1.trans (reach_symm G hq hfq h2).1

theorem fix_value_root {v : Nat → Nat} (hfix : IsFix G v) (hs : Sound G v) {p : Nat} (hp : p < G.n)
    (hfg : G.fg p = true) : v p < G.n ∧ G.fg (v p) = true ∧ v (v p) = v p :=
  have hr := (hs p hp hfg).1
  have ⟨_, hn, hf⟩ := reach_symm G hp hfg hr
  ⟨hn, hf, (fix_reach_eq G hfix hp hfg hr).symm⟩

def pot (n : Nat) (v : Nat → Nat) : Nat := ((List.range n).map v).sum

theorem pot_succ (n : Nat) (v : Nat → Nat) : pot (n + 1) v = pot n v + v n := by
  simp [pot, List.range_succ]

theorem pot_le (n : Nat) (v w : Nat → Nat) (h : ∀ p, p < n → w p ≤ v p) : pot n w ≤ pot n v := by
  induction n with
  | zero => exact Nat.le_refl _
  | succ n ih =>
    have := ih fun p hp => h p (Nat.lt_succ_of_lt hp)
    have := h n (Nat.lt_succ_self n)
    rw [pot_succ, pot_succ]; omega

theorem pot_lt (n : Nat) (v w : Nat → Nat) (h : ∀ p, p < n → w p ≤ v p)
    (k : Nat) (hk : k < n) (hlt : w k < v k) : pot n w < pot n v := by
  induction n with
  | zero => omega
  | succ n ih =>
    have hle := pot_le n v w fun p hp => h p (Nat.lt_succ_of_lt hp)
    have hn := h n (Nat.lt_succ_self n)
    rw [pot_succ, pot_succ]
    rcases Nat.lt_succ_iff_lt_or_eq.mp hk with hk | rfl
    · have := ih (fun p hp => h p (Nat.lt_succ_of_lt hp)) hk
      omega
    · omega

/-! the iteration: every round lowers the potential until nothing changes -/

section step
variable {n : Nat} {fg : Nat → Bool} {nb : Nat → List Nat} (v : Array Nat)

theorem F_step (p : Nat) (hp : p < n) : F (step n fg nb v) p = newval fg nb (F v) p := by
  simp [F, step, hp]

theorem size_step : (step n fg nb v).size = n := by
  simp [step]

theorem step_le (p : Nat) (hp : p < n) : F (step n fg nb v) p ≤ F v p := by
  rw [F_step v p hp]; exact newval_le fg nb (F v) p

theorem step_ne_strict (hs : v.size = n) (hne : step n fg nb v ≠ v) :
    ∃ p, p < n ∧ F (step n fg nb v) p < F v p :=
  Classical.byContradiction fun hcon => hne <| Array.ext (by rw [size_step, hs]) fun i h1 h2 => by
    have hi : i < n := Nat.lt_of_lt_of_eq h1 (size_step v)
    have hle := step_le (fg := fg) (nb := nb) v i hi
    have hge : ¬ F (step n fg nb v) i < F v i := fun h => hcon ⟨i, hi, h⟩
    simp only [F, Array.getD_eq_getD_getElem?, Array.getElem?_eq_getElem, h1, h2, Option.getD_some] at hle hge
    omega

end step

theorem run_spec : ∀ (fuel : Nat) (v : Array Nat), v.size = G.n → Sound G (F v) →
    pot G.n (F v) < fuel →
    let r := run G.n G.fg G.nbrs fuel v
    r.size = G.n ∧ Sound G (F r) ∧ IsFix G (F r) := by
  intro fuel
  induction fuel with
  | zero => intro v _ _ h; omega
  | succ fuel ih =>
    intro v hs hsound hpot
    simp only [run]
    split
    · rename_i heq
      exact ⟨hs, hsound, fun p hp => by rw [← F_step v p hp, heq]⟩
    · rename_i hne
      obtain ⟨k, hk, hlt⟩ := step_ne_strict v hs hne
      have hdec := pot_lt G.n (F v) _ (step_le v) k hk hlt
      refine ih _ (size_step v) (fun p hp hfg => ?_) (by omega)
      rw [F_step v p hp]
      exact sound_step G hsound p hp hfg

theorem F_range {n p : Nat} (hp : p < n) : F (Array.range n) p = p := by
  simp [F, hp]

theorem run_range_spec :
    let r := run G.n G.fg G.nbrs ((List.range G.n).sum + 1) (Array.range G.n)
    r.size = G.n ∧ Sound G (F r) ∧ IsFix G (F r) := by
  refine run_spec G _ _ Array.size_range (fun p hp hfg => ?_) (Nat.lt_succ_of_le ?_)
  · rw [F_range hp]; exact sound_id G p hp hfg
  · have := pot_le G.n (fun p => p) _ fun p hp => Nat.le_of_eq (F_range hp)
    simpa [pot] using this

end PhotVerif.CCLTheory
