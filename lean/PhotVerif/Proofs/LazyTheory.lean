/-
  Theory of the generic lazy-object model: if the micro-step table is well-formed (W1, W2)
  then EVERY finite history of reads succeeds (no read fails because of what was read before).
-/
import PhotVerif.Model.Lazy
import Mathlib.Tactic.ByContra

namespace PhotVerif.LazyTheory
open PhotVerif.Model.Lazy

def W1 (steps : List Micro) : Prop :=
  ∀ pre r g post, steps = pre ++ Micro.drop r g :: post → Micro.use r ∉ post
def W2 (tbl : Nat → List Micro) : Prop :=
  ∀ k r g, Micro.drop r g ∈ tbl k → ∀ k', k' ≠ k → Micro.use r ∈ tbl k' → k' ∈ g

def LInv (tbl : Nat → List Micro) (s : St) : Prop :=
  ∀ r, s.avail r = false → ∀ k', Micro.use r ∈ tbl k' → s.cached k' = true

def InvDuring (tbl : Nat → List Micro) (k : Nat) (rest : List Micro) (s : St) : Prop :=
  ∀ r, s.avail r = false → ∀ k', Micro.use r ∈ tbl k' →
    (k' ≠ k ∧ s.cached k' = true) ∨ (k' = k ∧ Micro.use r ∉ rest)

/-- consuming a step only weakens what the invariant asks of the steps still to run -/
theorem InvDuring.tail {tbl : Nat → List Micro} {k : Nat} {m : Micro} {rest : List Micro} {s : St}
    (h : InvDuring tbl k (m :: rest) s) : InvDuring tbl k rest s :=
  fun r hr k' hk' => (h r hr k' hk').imp_right fun ⟨he, hn⟩ => ⟨he, fun hm => hn (List.mem_cons_of_mem _ hm)⟩

theorem runSteps_ok (tbl : Nat → List Micro) (k : Nat) (hW2 : W2 tbl) (hW1 : W1 (tbl k)) :
    ∀ (rest pre : List Micro) (s : St), tbl k = pre ++ rest →
      InvDuring tbl k rest s →
      ∃ s', runSteps rest s = some s' ∧ s'.cached = s.cached ∧ InvDuring tbl k [] s' := by
  intro rest
  induction rest with
  | nil => intro pre s _ h; exact ⟨s, rfl, rfl, h⟩
  | cons m rest ih =>
    intro pre s hsplit hinv
    have hmem : m ∈ tbl k := by rw [hsplit]; simp
    have ih' := fun s' => ih (pre ++ [m]) s' (by simp [hsplit])
    cases m with
    | use r =>
      -- `r` is still there: a dropped resource is never used in what remains of this read
      have hav : s.avail r = true := by
        by_contra h
        rcases hinv r (by simpa using h) k hmem with ⟨hne, _⟩ | ⟨_, hn⟩
        exacts [hne rfl, hn List.mem_cons_self]
      simp only [runSteps, hav, if_true]
      exact ih' s hinv.tail
    | drop r g =>
      simp only [runSteps]
      split
      · rename_i hg
        -- `r` goes: this read does not use it again (W1), every other read that does is cached (W2 and the guard)
        refine ih' _ fun r' h' k' hk' => ?_
        by_cases hrr : r' = r
        · subst hrr
          by_cases hk : k' = k
          · exact .inr ⟨hk, hW1 pre r' g rest hsplit⟩
          · exact .inl ⟨hk, List.all_eq_true.mp hg k' (hW2 k r' g hmem k' hk hk')⟩
        · exact hinv.tail r' (by simpa [upd, hrr] using h') k' hk'
      · exact ih' s hinv.tail

theorem read_ok (tbl : Nat → List Micro) (hW2 : W2 tbl) (hW1 : ∀ k, W1 (tbl k))
    (k : Nat) (s : St) (hinv : LInv tbl s) :
    ∃ s', readKey tbl k s = some s' ∧ LInv tbl s' := by
  unfold readKey
  split
  · exact ⟨s, rfl, hinv⟩
  · rename_i hc
    obtain ⟨s', hrun, hcache, hd⟩ := runSteps_ok tbl k hW2 (hW1 k) (tbl k) [] s rfl fun r h k' hk' =>
      if hk : k' = k then absurd (hk ▸ hinv r h k' hk') hc else .inl ⟨hk, hinv r h k' hk'⟩
    rw [hrun]
    refine ⟨_, rfl, fun r h k' hk' => ?_⟩
    simp only [upd]
    split
    · rfl
    · rename_i hk
      exact ((hd r h k' hk').resolve_right fun ⟨he, _⟩ => hk he).2

/-- every history of reads from a coherent state succeeds -/
theorem history_ok (tbl : Nat → List Micro) (hW2 : W2 tbl) (hW1 : ∀ k, W1 (tbl k)) :
    ∀ (hist : List Nat) (s : St) (i : Nat), LInv tbl s → runHistory tbl hist s i = none := by
  intro hist
  induction hist with
  | nil => intro s i _; rfl
  | cons k ks ih =>
    intro s i h
    obtain ⟨s1, h1, hi1⟩ := read_ok tbl hW2 hW1 k s h
    simp only [runHistory, h1]
    exact ih s1 (i + 1) hi1

theorem fresh_inv (tbl : Nat → List Micro) : LInv tbl fresh := fun _ h => nomatch h

theorem w1b_sound (steps : List Micro) (h : w1b steps = true) : W1 steps := by
  rintro pre r g post rfl
  induction pre with
  | nil =>
    simp only [List.nil_append, w1b, Bool.and_eq_true, Bool.not_eq_true', List.contains_eq_mem, decide_eq_false_iff_not] at h
    exact h.1
  | cons a pre ih =>
    refine ih ?_
    cases a with
    | use _ => exact h
    | drop _ _ => exact (Bool.and_eq_true_iff.mp h).2

theorem lt_of_mem_tblOf {rows : List (List Micro)} {k : Nat} {m : Micro} (h : m ∈ tblOf rows k) : k < rows.length := by
  by_contra hk
  rw [tblOf, List.getD_eq_getElem?_getD, List.getElem?_eq_none (Nat.le_of_not_lt hk)] at h
  cases h

theorem w2b_sound (rows : List (List Micro)) (h : w2b rows = true) : W2 (tblOf rows) := by
  intro k r g hmem k' hne huse
  have h := List.all_eq_true.mp (List.all_eq_true.mp h k (List.mem_range.mpr (lt_of_mem_tblOf hmem))) _ hmem
  have h := List.all_eq_true.mp h k' (List.mem_range.mpr (lt_of_mem_tblOf huse))
  simp only [Bool.or_eq_true, beq_iff_eq, hne, false_or, Bool.not_eq_true', List.contains_eq_mem,
    decide_eq_false_iff_not, decide_eq_true_eq] at h
  exact h.resolve_left (not_not_intro huse)

/-- a table accepted by the checkers admits no failing history of reads on a fresh object -/
theorem checked_table_never_fails (rows : List (List Micro)) (h1 : rows.all w1b = true) (h2 : w2b rows = true)
    (hist : List Nat) : runHistory (tblOf rows) hist fresh 0 = none := by
  refine history_ok (tblOf rows) (w2b_sound rows h2) (fun k => w1b_sound _ ?_) hist fresh 0 (fresh_inv _)
  rw [tblOf, List.getD_eq_getElem?_getD]
  cases hk : rows[k]? with
  | none => rfl
  | some row => exact List.all_eq_true.mp h1 _ (List.mem_of_getElem? hk)

end PhotVerif.LazyTheory
