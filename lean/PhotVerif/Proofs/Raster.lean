/-
  Raster sums: Σ over p < ny·nx of h (p / nx) (p % nx) as a double sum, and sums over a zero-padded
  embedding of an ny × nx raster at offset (dy, dx) inside an NY × NX canvas.
-/
import PhotVerif.Proofs.Grid
import Mathlib.Algebra.BigOperators.Intervals
import Mathlib.Algebra.BigOperators.Ring.Finset
import Mathlib.Tactic.Linarith

namespace PhotVerif.Raster
open Finset

/-- the models add up a raster with `foldl (· + ·) 0` over `List.range`; `Finset.range n` is `List.range n` underneath, so the
    sum over it is the list's sum by definition -/
theorem foldl_range (n : Nat) (f : Nat → Rat) : ((List.range n).map f).foldl (· + ·) 0 = ∑ i ∈ range n, f i :=
  List.sum_eq_foldl.symm

theorem raster_sum (ny nx : Nat) (h : Nat → Nat → Rat) :
    ∑ p ∈ range (ny * nx), h (p / nx) (p % nx) = ∑ y ∈ range ny, ∑ x ∈ range nx, h y x := by
  induction ny with
  | zero => simp
  | succ n ih =>
    rw [Nat.succ_mul, sum_range_add, ih, sum_range_succ]
    congr 1
    exact sum_congr rfl fun x hx => by rw [idx_div _ _ _ (mem_range.mp hx), idx_mod _ _ _ (mem_range.mp hx)]

theorem window_sum (N n d : Nat) (f : Nat → Rat) (hd : d + n ≤ N)
    (hz : ∀ i, i < d ∨ d + n ≤ i → f i = 0) :
    ∑ i ∈ range N, f i = ∑ i ∈ range n, f (d + i) := by
  have h := sum_Ico_eq_sum_range f d (d + n)
  rw [Nat.add_sub_cancel_left] at h
  rw [← h]
  refine (sum_subset (fun i hi => ?_) fun i hi hni => ?_).symm
  · rw [mem_Ico] at hi
    exact mem_range.mpr (by omega)
  · rw [mem_Ico] at hni
    exact hz i (by omega)

/-- value of the zero-padded embedding at canvas pixel (Y, X) -/
def embedAt (ny nx dy dx : Nat) (w : Nat → Rat) (Y X : Nat) : Rat :=
  if dy ≤ Y ∧ Y < dy + ny ∧ dx ≤ X ∧ X < dx + nx then w ((Y - dy) * nx + (X - dx)) else 0

theorem embedAt_add {ny nx dy dx : Nat} {w : Nat → Rat} {y x : Nat} (hy : y < ny) (hx : x < nx) :
    embedAt ny nx dy dx w (dy + y) (dx + x) = w (y * nx + x) := by
  rw [embedAt, if_pos (by omega), Nat.add_sub_cancel_left, Nat.add_sub_cancel_left]

theorem embedAt_outside {ny nx dy dx : Nat} {w : Nat → Rat} {Y X : Nat}
    (h : ¬ (dy ≤ Y ∧ Y < dy + ny ∧ dx ≤ X ∧ X < dx + nx)) : embedAt ny nx dy dx w Y X = 0 := if_neg h

/-- any weighted raster sum over the canvas equals the same sum over the original frame with
    coordinates shifted by (dy, dx) -/
theorem embed_sum (ny nx NY NX dy dx : Nat) (hy : dy + ny ≤ NY) (hx : dx + nx ≤ NX) (hnx : 0 < nx)
    (w : Nat → Rat) (G : Nat → Nat → Rat) :
    ∑ P ∈ range (NY * NX), G (P / NX) (P % NX) * embedAt ny nx dy dx w (P / NX) (P % NX)
      = ∑ p ∈ range (ny * nx), G (p / nx + dy) (p % nx + dx) * w p := by
  rw [raster_sum NY NX fun Y X => G Y X * embedAt ny nx dy dx w Y X, window_sum NY ny dy _ hy]
  · trans ∑ y ∈ range ny, ∑ x ∈ range nx, G (dy + y) (dx + x) * w (y * nx + x)
    · refine sum_congr rfl fun y hy' => ?_
      rw [window_sum NX nx dx _ hx]
      · exact sum_congr rfl fun x hx' => by rw [embedAt_add (mem_range.mp hy') (mem_range.mp hx')]
      · exact fun X hX => by rw [embedAt_outside (by omega), mul_zero]
    · rw [← raster_sum ny nx fun y x => G (dy + y) (dx + x) * w (y * nx + x)]
      exact sum_congr rfl fun p _ => by rw [Nat.div_add_mod', Nat.add_comm dy, Nat.add_comm dx]
  · exact fun Y hY => sum_eq_zero fun X _ => by rw [embedAt_outside (by omega), mul_zero]

/-- transposition: the raster sum over the transposed (nx × ny) array with x- and y-roles exchanged -/
theorem transpose_sum (ny nx : Nat) (w : Nat → Rat) (G : Nat → Nat → Rat) :
    ∑ P ∈ range (nx * ny), G (P / ny) (P % ny) * w ((P % ny) * nx + P / ny)
      = ∑ p ∈ range (ny * nx), G (p % nx) (p / nx) * w p := by
  rw [raster_sum nx ny fun X Y => G X Y * w (Y * nx + X), sum_comm, ← raster_sum ny nx fun y x => G x y * w (y * nx + x)]
  exact sum_congr rfl fun p _ => by rw [Nat.div_add_mod']

end PhotVerif.Raster
