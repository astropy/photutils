/-
  C01 — bounding boxes and overlap slices (theorems about the definitions that
  tools/gen_lean.py regenerates from photutils/aperture/bounding_box.py).
-/
import PhotVerif.Proofs.BBoxLemmas
import PhotVerif.Model.Mask
import PhotVerif.Proofs.FieldInst

namespace PhotVerif.C01
open PhotVerif PhotVerif.Gen

/-- closed pixel span of index interval `[lo,hi)` contains `[a,b]`
    (pixel `i` spans `[i-1/2, i+1/2]`). -/
def Covers1 {α : Type} [Field α] [LinearOrder α] (lo hi : Int) (a b : α) : Prop :=
  (lo : α) - 1/2 ≤ a ∧ b ≤ (hi : α) - 1/2

theorem init_err (a b c d : Int) (h : b < a ∨ d < c) : BBox.init a b c d = .error Err.ValueError := by
  rw [BBox.init_eq, if_neg (by omega)]

section
variable {α : Type} [Field α] [LinearOrder α] [IsStrictOrderedRing α] [FloorRing α]

/-- one axis of `from_float`: the index intervals that cover `[a,b]` are those containing `[⌊a + ½⌋, ⌈b + ½⌉)` -/
theorem covers1_iff (lo hi : Int) (a b : α) : Covers1 lo hi a b ↔ lo ≤ ⌊a + 0.5⌋ ∧ ⌈b + 0.5⌉ ≤ hi := by
  rw [Covers1, Int.le_floor, Int.ceil_le, sub_le_iff_le_add, le_sub_iff_add_le]
  norm_num

theorem floor_le_ceil_half {a b : α} (h : a ≤ b) : ⌊a + 0.5⌋ ≤ ⌈b + 0.5⌉ :=
  (Int.floor_mono (add_le_add_left h _)).trans (Int.floor_le_ceil _)

end

section fromFloat
variable {α : Type} [Field α] [LinearOrder α] [IsStrictOrderedRing α] [FloorRing α] [MathOps α]

/-- `from_float` succeeds on a well-ordered rectangle, the returned integer box
    covers the rectangle, and every integer box that covers it contains the returned one. -/
theorem fromFloat_least_cover (xmin xmax ymin ymax : α) (hx : xmin ≤ xmax) (hy : ymin ≤ ymax) :
    ∃ b : BBox, BBox.fromFloat xmin xmax ymin ymax = .ok b ∧
      Covers1 b.ixmin b.ixmax xmin xmax ∧ Covers1 b.iymin b.iymax ymin ymax ∧
      ∀ lo hi : Int, (Covers1 lo hi xmin xmax → lo ≤ b.ixmin ∧ b.ixmax ≤ hi) ∧
                     (Covers1 lo hi ymin ymax → lo ≤ b.iymin ∧ b.iymax ≤ hi) :=
  ⟨_, (BBox.fromFloat_eq ..).trans (BBox.init_ok (floor_le_ceil_half hx) (floor_le_ceil_half hy)),
    (covers1_iff ..).mpr ⟨le_rfl, le_rfl⟩, (covers1_iff ..).mpr ⟨le_rfl, le_rfl⟩,
    fun _ _ => ⟨(covers1_iff ..).mp, (covers1_iff ..).mp⟩⟩

/-- a reversed rectangle whose rounded bounds are reversed is rejected, never defaulted -/
theorem fromFloat_error_iff (xmin xmax ymin ymax : α) :
    (∃ e, BBox.fromFloat xmin xmax ymin ymax = .error e) ↔
      (Int.ceil (xmax + 0.5) < Int.floor (xmin + 0.5) ∨ Int.ceil (ymax + 0.5) < Int.floor (ymin + 0.5)) := by
  rw [BBox.fromFloat_eq, BBox.init_eq]
  split_ifs <;> simp <;> omega

end fromFloat

def inBox (b : BBox) (y x : Int) : Prop := b.iymin ≤ y ∧ y < b.iymax ∧ b.ixmin ≤ x ∧ x < b.ixmax
def inImg (ny nx y x : Int) : Prop := 0 ≤ y ∧ y < ny ∧ 0 ≤ x ∧ x < nx
def inSl (s : Slc × Slc) (y x : Int) : Prop :=
  s.1.start ≤ y ∧ y < s.1.stop ∧ s.2.start ≤ x ∧ x < s.2.stop
instance (b : BBox) (y x : Int) : Decidable (inBox b y x) := by unfold inBox; infer_instance
instance (ny nx y x : Int) : Decidable (inImg ny nx y x) := by unfold inImg; infer_instance

theorem overlap_never_raises (b : BBox) (ny nx : Int) :
    ∃ r, BBox.getOverlapSlices b (ny, nx) = .ok r := ⟨_, b.getOverlapSlices_eq ny nx⟩

/-- `None` is returned iff box and image have no common pixel (non-empty box, image ≥ 1×1). -/
theorem overlap_none_iff (b : BBox) (ny nx : Int) (hx : b.ixmin < b.ixmax) (hy : b.iymin < b.iymax)
    (hny : 0 < ny) (hnx : 0 < nx) :
    BBox.getOverlapSlices b (ny, nx) = .ok none ↔ ¬ ∃ y x, inBox b y x ∧ inImg ny nx y x := by
  rw [BBox.getOverlapSlices_none_iff]
  unfold inBox inImg
  constructor
  · rintro h ⟨y, x, h1, h2⟩; omega
  · intro h
    by_contra hc
    exact h ⟨max b.iymin 0, max b.ixmin 0, by omega, by omega⟩

/-- when slices are returned, `large` selects exactly the common pixels and `small`
    is `large` re-based to the box origin. -/
theorem overlap_some_exact (b : BBox) (ny nx : Int) (L S : Slc × Slc)
    (h : BBox.getOverlapSlices b (ny, nx) = .ok (some (L, S))) (y x : Int) :
    (inSl L y x ↔ inBox b y x ∧ inImg ny nx y x) ∧
    (inSl S (y - b.iymin) (x - b.ixmin) ↔ inSl L y x) := by
  obtain ⟨rfl, rfl⟩ := BBox.getOverlapSlices_some h
  unfold inSl inBox inImg
  -- `max_le_iff`, `lt_min_iff` first: left to `omega`, every `min` and `max` is a case split
  simp only [sub_le_sub_iff_right, sub_lt_sub_iff_right, max_le_iff, lt_min_iff, and_true]
  omega

/-- the two slice pairs have identical extents -/
theorem overlap_same_extent (b : BBox) (ny nx : Int) (L S : Slc × Slc)
    (h : BBox.getOverlapSlices b (ny, nx) = .ok (some (L, S))) :
    L.1.stop - L.1.start = S.1.stop - S.1.start ∧ L.2.stop - L.2.start = S.2.stop - S.2.start := by
  obtain ⟨rfl, rfl⟩ := BBox.getOverlapSlices_some h
  dsimp only
  omega

/-- `small` is `large` shifted by the box origin -/
theorem overlap_small_rebased (b : BBox) (ny nx : Int) (L S : Slc × Slc)
    (h : BBox.getOverlapSlices b (ny, nx) = .ok (some (L, S))) :
    S.1.start = L.1.start - b.iymin ∧ S.1.stop = L.1.stop - b.iymin ∧
    S.2.start = L.2.start - b.ixmin ∧ S.2.stop = L.2.stop - b.ixmin := by
  obtain ⟨rfl, rfl⟩ := BBox.getOverlapSlices_some h
  exact ⟨rfl, rfl, rfl, rfl⟩

-- non-vacuity: a box straddling the corner of a 7×9 image
example : BBox.getOverlapSlices ⟨-2, 3, 5, 12⟩ (7, 9) = .ok (some ((⟨5, 7⟩, ⟨0, 3⟩), (⟨0, 2⟩, ⟨2, 5⟩))) := by
  decide

theorem bounds_of_subset {a c : BBox} (hx : a.ixmin < a.ixmax) (hy : a.iymin < a.iymax)
    (h : ∀ y x, inBox a y x → inBox c y x) :
    c.iymin ≤ a.iymin ∧ a.iymax ≤ c.iymax ∧ c.ixmin ≤ a.ixmin ∧ a.ixmax ≤ c.ixmax := by
  have h1 := h a.iymin a.ixmin
  have h2 := h (a.iymax - 1) (a.ixmax - 1)
  unfold inBox at h1 h2
  omega

theorem union_least_upper (a b : BBox) (ha : a.ixmin ≤ a.ixmax ∧ a.iymin ≤ a.iymax)
    (hb : b.ixmin ≤ b.ixmax ∧ b.iymin ≤ b.iymax) :
    ∃ u, BBox.union a b = .ok u ∧
      (∀ y x, inBox a y x ∨ inBox b y x → inBox u y x) ∧
      (∀ c : BBox, (∀ y x, inBox a y x ∨ inBox b y x → inBox c y x) →
        a.ixmin < a.ixmax → a.iymin < a.iymax → b.ixmin < b.ixmax → b.iymin < b.iymax →
        ∀ y x, inBox u y x → inBox c y x) := by
  refine ⟨_, (a.union_eq b).trans (BBox.init_ok (by omega) (by omega)), ?_, ?_⟩
  · simp only [inBox, min_le_iff, lt_max_iff]; omega
  · intro c hc h1 h2 h3 h4 y x
    have ca := bounds_of_subset h1 h2 fun y x h => hc y x (.inl h)
    have cb := bounds_of_subset h3 h4 fun y x h => hc y x (.inr h)
    simp only [inBox, min_le_iff, lt_max_iff]
    omega

/-- a box returned by `intersection` holds exactly the common pixels -/
theorem intersection_exact (a b c : BBox) (h : BBox.intersection a b = .ok (some c)) (y x : Int) :
    inBox c y x ↔ inBox a y x ∧ inBox b y x := by
  rw [BBox.intersection_eq] at h
  split at h <;> cases h
  simp only [inBox, max_le_iff, lt_min_iff]
  omega

/-- disjoint boxes (no common pixel) intersect to `None` or to an empty box, never to a wrong one -/
theorem intersection_none_disjoint (a b : BBox)
    (h : BBox.intersection a b = .ok none) : ¬ ∃ y x, inBox a y x ∧ inBox b y x := by
  rw [BBox.intersection_eq] at h
  split at h <;> cases h
  rintro ⟨y, x, h1, h2⟩
  simp only [inBox, min_lt_iff, lt_max_iff] at *
  omega

open PhotVerif.Model in
/-- `to_image` places weight (j,i) of the mask at image pixel (iymin+j, ixmin+i) and 0 elsewhere -/
theorem toImage_registered {α : Type} [OfNat α 0] (b : BBox) (w : Int → Int → α) (ny nx : Int)
    (img : Int → Int → α) (h : toImage b w ny nx = .ok (some img)) (y x : Int) (hin : inImg ny nx y x) :
    img y x = if inBox b y x then w (y - b.iymin) (x - b.ixmin) else 0 := by
  unfold toImage at h
  split at h <;> cases h
  rename_i heq
  obtain ⟨⟨⟩, ⟨⟩⟩ := BBox.getOverlapSlices_some heq
  unfold inImg at hin
  simp only [inBox, sub_add_sub_cancel, max_le_iff, lt_min_iff]
  exact if_congr (by omega) rfl rfl

open PhotVerif.Model in
/-- `to_image` returns None exactly when `get_overlap_slices` does -/
theorem toImage_none_iff {α : Type} [OfNat α 0] (b : BBox) (w : Int → Int → α) (ny nx : Int) :
    toImage b w ny nx = .ok none ↔ BBox.getOverlapSlices b (ny, nx) = .ok none := by
  unfold toImage
  split <;> simp_all

open PhotVerif.Model in
/-- `cutout` is the adjoint: cut-out pixel (j,i) shows image pixel (iymin+j, ixmin+i), or the fill value -/
theorem cutout_registered {α : Type} (b : BBox) (data : Int → Int → α) (ny nx : Int) (fill : α)
    (c : Int → Int → α) (h : cutout b data ny nx fill = .ok (some c)) (j i : Int)
    (hj : 0 ≤ j ∧ j < b.iymax - b.iymin) (hi : 0 ≤ i ∧ i < b.ixmax - b.ixmin) :
    c j i = if inImg ny nx (j + b.iymin) (i + b.ixmin) then data (j + b.iymin) (i + b.ixmin) else fill := by
  unfold cutout at h
  split at h <;> cases h
  rename_i heq
  obtain ⟨⟨⟩, ⟨⟩⟩ := BBox.getOverlapSlices_some heq
  simp only [inImg, sub_sub_eq_add_sub, sub_add_cancel, sub_le_iff_le_add, lt_sub_iff_add_lt, max_le_iff, lt_min_iff]
  exact if_congr (by omega) rfl rfl

end PhotVerif.C01
