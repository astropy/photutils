/-
  C18 — rendered model images are the exact superposition of their sources.
-/
import PhotVerif.Model.Render
import PhotVerif.Proofs.RenderLemmas
import Mathlib.Algebra.BigOperators.Group.List.Basic
import Mathlib.Tactic.Ring
import PhotVerif.Gen.ForwardTable

namespace PhotVerif.C18
open PhotVerif.Model.Render PhotVerif.Gen.RenderTable

theorem render_foldl (ny nx : Nat) (rows : List Row) (img : Nat → Nat → Rat) (y x : Nat) :
    (rows.foldl (fun img r => fun y x => img y x + contrib ny nx r y x) img) y x
      = img y x + (rows.map fun r => contrib ny nx r y x).sum := by
  induction rows generalizing img with
  | nil => simp
  | cons r rows ih => rw [List.foldl_cons, ih, List.map_cons, List.sum_cons, add_assoc]

/-- every pixel of the rendered image is the sum over the table rows of (model value + local background)
    on that row's clipped window, and 0 from rows whose window does not contain the pixel -/
theorem render_is_sum (ny nx : Nat) (rows : List Row) (y x : Nat) :
    render ny nx rows y x = (rows.map fun r => contrib ny nx r y x).sum := by
  rw [render, render_foldl, zero_add]

/-- invariance under any reordering of the table rows (exact arithmetic) -/
theorem render_perm_invariant (ny nx : Nat) (r1 r2 : List Row) (h : r1.Perm r2) (y x : Nat) :
    render ny nx r1 y x = render ny nx r2 y x := by
  rw [render_is_sum, render_is_sum]
  exact (h.map _).sum_eq

/-- additivity over table concatenation -/
theorem render_concat_additive (ny nx : Nat) (r1 r2 : List Row) (y x : Nat) :
    render ny nx (r1 ++ r2) y x = render ny nx r1 y x + render ny nx r2 y x := by
  simp only [render_is_sum, List.map_append, List.sum_append]

/-- rows that do not overlap the image contribute nothing -/
theorem render_skips_offimage (ny nx : Nat) (r : Row) (rows : List Row) (h : window ny nx r = none) (y x : Nat) :
    render ny nx (r :: rows) y x = render ny nx rows y x := by
  have : contrib ny nx r y x = 0 := by unfold contrib; rw [h]
  rw [render_is_sum, render_is_sum, List.map_cons, List.sum_cons, this, zero_add]

/-- the window on one axis is exactly the part of `[ceil(pos − s/2), ceil(pos − s/2) + s)` inside the image -/
theorem window1_spec (large small : Nat) (pos : Rat) (a b : Nat) (h : window1 large small pos = some (a, b)) (k : Nat) :
    (a ≤ k ∧ k < b) ↔ ((k : Int) < large ∧ (pos - (small : Rat) / 2).ceil ≤ (k : Int) ∧
      (k : Int) < (pos - (small : Rat) / 2).ceil + small) := by
  obtain ⟨-, rfl, rfl⟩ := (window1_eq_some_iff rfl).mp h
  simp only [Int.toNat_le, Int.lt_toNat, max_le_iff, lt_min_iff, Int.natCast_nonneg, true_and]
  exact and_left_comm

/-- no window (row skipped) iff the interval misses the image -/
theorem window1_none_iff (large small : Nat) (pos : Rat) (hs : small ≠ 0) :
    window1 large small pos = none ↔
      ((pos - (small : Rat) / 2).ceil + small ≤ 0 ∨ (pos - (small : Rat) / 2).ceil ≥ large) := by
  simp only [window1, ite_eq_left_iff, reduceCtorEq, imp_false, not_not]
  omega

/-- units: for the skeleton extracted from the source, a table of unit-ful rows gives a unit-ful image whichever rows overlap
    the image (even none), and a table of unit-less rows never does -/
theorem units_regardless_of_overlap (ny nx : Nat) (rows : List Row) (hne : rows ≠ []) (hu : ∀ r ∈ rows, r.hasUnit = true) :
    outputHasUnit ny nx rows = true := by
  unfold outputHasUnit
  have ha : attachesUnitAfterLoop = true := by decide
  have hl : (rows.getLast?.map (·.hasUnit)).getD false = true := by
    rw [List.getLast?_eq_some_getLast hne]
    simp [hu _ (List.getLast_mem hne)]
  simp [ha, hl]

theorem no_units_without_unitful_rows (ny nx : Nat) (rows : List Row) (hu : ∀ r ∈ rows, r.hasUnit = false) :
    outputHasUnit ny nx rows = false := by
  unfold outputHasUnit
  have hf : unitsDependOnRowIndex = false := by decide
  have h1 : (rows.any fun r => (window ny nx r).isSome && r.hasUnit) = false := by
    rw [List.any_eq_false]; intro r hr; simp [hu r hr]
  have h2 : (rows.getLast?.map (·.hasUnit)).getD false = false := by
    cases hgl : rows.getLast? with
    | none => rfl
    | some r => simp [hu r (List.mem_of_getLast? hgl)]
  simp [hf, h1, h2]

/-- hence the flag does not depend on the row order when the rows agree on being unit-ful (one model renders them all) -/
theorem units_independent_of_row_order (ny nx : Nat) (r1 r2 : List Row) (h : r1.Perm r2) (b : Bool)
    (hb : ∀ r ∈ r1, r.hasUnit = b) : outputHasUnit ny nx r1 = outputHasUnit ny nx r2 := by
  have hb2 : ∀ r ∈ r2, r.hasUnit = b := fun r hr => hb r (h.mem_iff.mpr hr)
  cases b with
  | false => rw [no_units_without_unitful_rows ny nx r1 hb, no_units_without_unitful_rows ny nx r2 hb2]
  | true =>
    by_cases hne : r1 = []
    · subst hne; rw [List.nil_perm.mp h]
    · have hne2 : r2 ≠ [] := fun h2 => hne (by subst h2; exact List.perm_nil.mp h)
      rw [units_regardless_of_overlap ny nx r1 hne hb, units_regardless_of_overlap ny nx r2 hne2 hb2]

/-- a residual image is exactly data minus the model image -/
theorem residual_is_data_minus_model (data : Nat → Nat → Rat) (ny nx : Nat) (rows : List Row) (y x : Nat) :
    residual data ny nx rows y x + render ny nx rows y x = data y x := by
  unfold residual; ring

/-- the loop skeleton has the expected shape: accumulates stamp + local background, skips NoOverlapError rows,
    trims windows to the image and works on a copy of the input model -/
theorem loop_skeleton : accumulatesStampPlusBkg = true ∧ skipsNoOverlap = true ∧ usesTrimMode = true ∧ modelCopied = true := by
  decide

-- non-vacuity: a 5-wide stamp centred at x = 1 on a 4-pixel axis covers pixels 0..3 (window [0,4))
example : window1 4 5 1 = some (0, 4) := by decide +kernel
example : window1 4 3 (-5/2) = none := by decide +kernel

/-- TABLE OBLIGATION: in the modules of this property, every call that delegates to another photutils function, method or
    constructor passes on each value the caller holds under the callee's own parameter name (its own parameters, `self.<name>`
    attributes set in `__init__`) - dropped `subpixels`, `mask`, `connectivity`, `include_localbkg` ... keywords were a recurring
    kind of seeded change -/
theorem no_dropped_arguments : Gen.ForwardTable.droppedIn Gen.ForwardTable.scopeC18 = [] := by decide +kernel

end PhotVerif.C18
