/-
  C06 — deblending only refines segments and is independent of worker scheduling.
  The per-source deblender is a parameter `D` constrained by the contract the code itself
  enforces (footprint guard, children numbered 1..k).
-/
import PhotVerif.Model.Deblend
import PhotVerif.Props.C05

namespace PhotVerif.C06
open PhotVerif.Model.Segm PhotVerif.Model.Deblend PhotVerif.C05

/-- filling by index: an index that occurs in `order` (and is in range) holds its own result, whatever the order -/
theorem getElem?_fill (vals : Nat → Option Child) (order : List Nat) (acc : List (Option (Option Child))) (i : Nat) :
    (order.foldl (fun res idx => res.set idx (some (vals idx))) acc)[i]? =
      if i ∈ order then acc[i]?.map fun _ => some (vals i) else acc[i]? := by
  induction order generalizing acc with
  | nil => rfl
  | cons a order ih =>
    rw [List.foldl_cons, ih, List.getElem?_set']
    by_cases hia : a = i
    · subst hia; cases acc[a]? <;> simp
    · simp [hia, Ne.symm hia]

/-- whatever order the futures complete in (every task completes at least once), the `results`
    array is the per-index result list -/
theorem fillResults_any_order (m : Nat) (order : List Nat) (vals : Nat → Option Child)
    (hall : ∀ i, i < m → i ∈ order) :
    fillResults m order vals = (List.range m).map fun i => some (vals i) := by
  unfold fillResults
  apply List.ext_getElem?
  intro i
  rw [getElem?_fill]
  by_cases hi : i < m
  · simp [hall i hi, hi]
  · simp [hi]

/-- for every completion order the parallel branch computes exactly what the
    serial branch computes -/
theorem parallel_eq_serial (n : Nat) (seg : Nat → Nat) (labels : List Nat) (D : Nat → Option Child)
    (order : List Nat) (hall : ∀ i, i < labels.length → i ∈ order) :
    parallel n seg labels D order = serial n seg labels D := by
  unfold parallel serial
  rw [fillResults_any_order _ _ _ hall]
  simp only
  congr 1
  apply List.ext_getElem
  · simp
  · intro i h1 h2
    simp only [List.length_zip, List.length_map, List.length_range, Nat.min_self] at h1
    simp [List.getElem_zip, List.getD_eq_getElem?_getD, h1]

theorem parallel_order_irrelevant (n : Nat) (seg : Nat → Nat) (labels : List Nat) (D : Nat → Option Child)
    (o1 o2 : List Nat) (h1 : o1.Perm (List.range labels.length)) (h2 : o2.Perm (List.range labels.length)) :
    parallel n seg labels D o1 = parallel n seg labels D o2 := by
  rw [parallel_eq_serial n seg labels D o1 (fun i hi => h1.mem_iff.mpr (List.mem_range.mpr hi)),
      parallel_eq_serial n seg labels D o2 (fun i hi => h2.mem_iff.mpr (List.mem_range.mpr hi))]

theorem tab_eq (n : Nat) (f : Nat → Nat) (p : Nat) (hp : p < n) : (tabA n f).getD p 0 = f p := by
  unfold tabA; exact getD_map_range n f p hp

theorem mergeOne_some_segm (n : Nat) (st : MState) (l : Nat) (c : Child) (p : Nat) (hp : p < n) :
    (mergeOne n st l (some c)).segm p = if c p > 0 then c p + st.maxLabel else st.segm p :=
  tab_eq n _ p hp

theorem mergeOne_some_max (n : Nat) (st : MState) (l : Nat) (c : Child) :
    (mergeOne n st l (some c)).maxLabel = st.maxLabel + (dLabels n c).length := by
  simp [mergeOne]

theorem mergeOne_some_dmap (n : Nat) (st : MState) (l : Nat) (c : Child) :
    (mergeOne n st l (some c)).dmap = st.dmap ++ [(l, (dLabels n c).map (· + st.maxLabel))] := rfl

/-- what the code enforces / assumes about one per-source result for parent `l`:
    the children occupy exactly the parent's pixels (footprint guard) and are numbered 1..k -/
structure ChildOK (n : Nat) (seg : Nat → Nat) (l : Nat) (c : Child) : Prop where
  footprint : ∀ p, p < n → (0 < c p ↔ seg p = l)
  numbered : ∀ p, p < n → c p ≤ (dLabels n c).length

def WorkOK (n : Nat) (seg : Nat → Nat) (work : List (Nat × Option Child)) : Prop :=
  (work.map Prod.fst).Nodup ∧ ∀ lr ∈ work, lr.1 ≠ 0 ∧ ∀ c, lr.2 = some c → ChildOK n seg lr.1 c

/-- invariant of the merge loop after the prefix `done` of the work list -/
structure J (n : Nat) (seg : Nat → Nat) (M0 : Nat) (done : List (Nat × Option Child)) (st : MState) : Prop where
  nonzero : ∀ p, p < n → (st.segm p ≠ 0 ↔ seg p ≠ 0)
  untouched : ∀ p, p < n → (∀ lr ∈ done, lr.2 = none ∨ lr.1 ≠ seg p) → st.segm p = seg p
  bound : ∀ p, p < n → st.segm p ≤ st.maxLabel
  mono : M0 ≤ st.maxLabel
  fresh : ∀ p, p < n → (∃ lr ∈ done, lr.1 = seg p ∧ lr.2 ≠ none) → M0 < st.segm p
  refines : ∀ p q, p < n → q < n → st.segm p = st.segm q → seg p = seg q
  dmapKeys : ∀ pc ∈ st.dmap, ∃ lr ∈ done, lr.1 = pc.1 ∧ lr.2 ≠ none
  dmapPix : ∀ pc ∈ st.dmap, ∀ x, x ∈ pc.2 ↔ ∃ p, p < n ∧ seg p = pc.1 ∧ st.segm p = x

theorem J_step (n : Nat) (seg : Nat → Nat) (M0 : Nat) (hM0 : ∀ p, p < n → seg p ≤ M0)
    (done : List (Nat × Option Child)) (st : MState) (h : J n seg M0 done st)
    (l : Nat) (r : Option Child) (hl0 : l ≠ 0) (hnew : ∀ lr ∈ done, lr.1 ≠ l)
    (hc : ∀ c, r = some c → ChildOK n seg l c) :
    J n seg M0 (done ++ [(l, r)]) (mergeOne n st l r) := by
  cases r with
  | none =>
    -- the state is unchanged, and only these three fields speak of `done`
    refine { h with untouched := fun p hp hall => h.untouched p hp fun lr hlr => hall lr (List.mem_append_left _ hlr),
                    fresh := ?_, dmapKeys := ?_ }
    · rintro p hp ⟨lr, hlr, h1, h2⟩
      rcases List.mem_append.mp hlr with hd | hd
      · exact h.fresh p hp ⟨lr, hd, h1, h2⟩
      · cases List.mem_singleton.mp hd; exact absurd rfl h2
    · intro pc hpc
      obtain ⟨lr, hlr, h12⟩ := h.dmapKeys pc hpc
      exact ⟨lr, List.mem_append_left _ hlr, h12⟩
  | some c =>
    have hck := hc c rfl
    have hmax := mergeOne_some_max n st l c
    -- on the parent's pixels the child label is shifted above every label so far; elsewhere nothing changes
    have key : ∀ p, p < n →
        (seg p = l ∧ 0 < c p ∧ c p ≤ (dLabels n c).length ∧ (mergeOne n st l (some c)).segm p = c p + st.maxLabel)
          ∨ (seg p ≠ l ∧ (mergeOne n st l (some c)).segm p = st.segm p) := fun p hp => by
      rw [mergeOne_some_segm n st l c p hp]
      by_cases hcp : c p > 0
      · exact .inl ⟨(hck.footprint p hp).mp hcp, hcp, hck.numbered p hp, if_pos hcp⟩
      · exact .inr ⟨fun e => hcp ((hck.footprint p hp).mpr e), if_neg hcp⟩
    constructor
    case nonzero =>
      intro p hp
      obtain ⟨hs, h1, _, e⟩ | ⟨_, e⟩ := key p hp <;> rw [e]
      · exact ⟨fun _ => hs ▸ hl0, fun _ => by omega⟩
      · exact h.nonzero p hp
    case untouched =>
      intro p hp hall
      obtain ⟨hs, _⟩ | ⟨_, e⟩ := key p hp
      · rcases hall (l, some c) (by simp) with h1 | h1
        · cases h1
        · exact absurd hs.symm h1
      · rw [e]; exact h.untouched p hp fun lr hlr => hall lr (List.mem_append_left _ hlr)
    case bound =>
      intro p hp
      have := h.bound p hp
      obtain ⟨_, _, _, e⟩ | ⟨_, e⟩ := key p hp <;> rw [e, hmax] <;> omega
    case mono =>
      have := h.mono; rw [hmax]; omega
    case fresh =>
      rintro p hp ⟨lr, hlr, h1, h2⟩
      obtain ⟨_, _, _, e⟩ | ⟨hs, e⟩ := key p hp <;> rw [e]
      · have := h.mono; omega
      · rcases List.mem_append.mp hlr with hd | hd
        · exact h.fresh p hp ⟨lr, hd, h1, h2⟩
        · cases List.mem_singleton.mp hd; exact absurd h1.symm hs
    case refines =>
      intro p q hp hq
      have := h.bound p hp
      have := h.bound q hq
      obtain ⟨hsp, _, _, ep⟩ | ⟨_, ep⟩ := key p hp <;> obtain ⟨hsq, _, _, eq⟩ | ⟨_, eq⟩ := key q hq <;>
        rw [ep, eq] <;> intro e
      · rw [hsp, hsq]
      · omega
      · omega
      · exact h.refines p q hp hq e
    case dmapKeys =>
      intro pc hpc
      rcases List.mem_append.mp hpc with hd | hd
      · obtain ⟨lr, hlr, h12⟩ := h.dmapKeys pc hd
        exact ⟨lr, List.mem_append_left _ hlr, h12⟩
      · cases List.mem_singleton.mp hd; exact ⟨(l, some c), by simp, rfl, nofun⟩
    case dmapPix =>
      intro pc hpc x
      rcases List.mem_append.mp hpc with hd | hd
      · -- an earlier parent: its pixels are not touched by this step
        obtain ⟨lr, hlr, h1, _⟩ := h.dmapKeys pc hd
        have hne : pc.1 ≠ l := h1 ▸ hnew lr hlr
        rw [h.dmapPix pc hd x]
        refine exists_congr fun p => and_congr_right fun hp => and_congr_right fun hs => ?_
        obtain ⟨hs', _⟩ | ⟨_, e⟩ := key p hp
        · exact absurd (hs ▸ hs') hne
        · rw [e]
      · cases List.mem_singleton.mp hd
        simp only [List.mem_map, mem_dLabels]
        constructor
        · rintro ⟨y, ⟨hy0, p, hp, rfl⟩, rfl⟩
          obtain ⟨hs, _, _, e⟩ | ⟨hs, _⟩ := key p hp
          · exact ⟨p, hp, hs, e⟩
          · exact absurd ((hck.footprint p hp).mp (by omega)) hs
        · rintro ⟨p, hp, hs, rfl⟩
          obtain ⟨_, _, _, e⟩ | ⟨hs', _⟩ := key p hp
          · exact ⟨c p, ⟨by omega, p, hp, rfl⟩, e.symm⟩
          · exact absurd hs hs'

theorem le_foldl_max_dLabels (n : Nat) (seg : Nat → Nat) (p : Nat) (hp : p < n) :
    seg p ≤ (dLabels n seg).foldl max 0 := by
  by_cases h0 : seg p = 0
  · omega
  · exact le_foldl_max ((mem_dLabels n seg _).mpr ⟨h0, p, hp, rfl⟩)

theorem initState_segm (n : Nat) (seg : Nat → Nat) (p : Nat) (hp : p < n) : (initState n seg).segm p = seg p :=
  tab_eq n seg p hp

theorem J_init (n : Nat) (seg : Nat → Nat) :
    J n seg ((dLabels n seg).foldl max 0) [] (initState n seg) where
  nonzero p hp := initState_segm n seg p hp ▸ Iff.rfl
  untouched p hp _ := initState_segm n seg p hp
  bound p hp := (initState_segm n seg p hp).trans_le (le_foldl_max_dLabels n seg p hp)
  mono := Nat.le_refl _
  fresh := fun _ _ ⟨_, h, _⟩ => absurd h List.not_mem_nil
  refines p q hp hq h := ((initState_segm n seg p hp).symm.trans h).trans (initState_segm n seg q hq)
  dmapKeys := fun _ h => absurd h List.not_mem_nil
  dmapPix := fun _ h => absurd h List.not_mem_nil

theorem J_fold (n : Nat) (seg : Nat → Nat) (M0 : Nat) (hM0 : ∀ p, p < n → seg p ≤ M0) :
    ∀ (rest done : List (Nat × Option Child)) (st : MState), J n seg M0 done st →
      WorkOK n seg (done ++ rest) →
      J n seg M0 (done ++ rest) (rest.foldl (fun st lr => mergeOne n st lr.1 lr.2) st) := by
  intro rest
  induction rest with
  | nil => intro done st h _; simpa using h
  | cons lr rest ih =>
    intro done st h hw
    rw [List.append_cons] at hw ⊢
    have hlr := hw.2 lr (by simp)
    have hnew : ∀ x ∈ done, x.1 ≠ lr.1 := fun x hx => by
      have hnd := hw.1
      rw [List.map_append, List.map_append] at hnd
      exact (List.nodup_append.mp (List.nodup_append.mp hnd).1).2.2 x.1 (List.mem_map_of_mem hx) lr.1 (by simp)
    exact ih _ _ (J_step n seg M0 hM0 done st h lr.1 lr.2 hlr.1 hnew hlr.2) hw

/-- for every work list satisfying the per-source contract, the merged array
    (i) has the same non-zero pixels, (ii) equals the input on every pixel whose segment was not split,
    (iii) puts every output segment inside one input segment, (iv) gives children labels above every
    original label, and (v) records for each split parent exactly the labels found on its pixels. -/
theorem merge_refines (n : Nat) (seg : Nat → Nat) (work : List (Nat × Option Child))
    (hw : WorkOK n seg work) :
    let out := merge n seg work
    let M0 := (dLabels n seg).foldl max 0
    (∀ p, p < n → (out.segm p ≠ 0 ↔ seg p ≠ 0)) ∧
    (∀ p, p < n → (∀ lr ∈ work, lr.2 = none ∨ lr.1 ≠ seg p) → out.segm p = seg p) ∧
    (∀ p q, p < n → q < n → out.segm p = out.segm q → seg p = seg q) ∧
    (∀ p, p < n → (∃ lr ∈ work, lr.1 = seg p ∧ lr.2 ≠ none) → M0 < out.segm p) ∧
    (∀ pc ∈ out.dmap, (∃ lr ∈ work, lr.1 = pc.1 ∧ lr.2 ≠ none) ∧
        ∀ x, x ∈ pc.2 ↔ ∃ p, p < n ∧ seg p = pc.1 ∧ out.segm p = x) := by
  intro out M0
  have h := J_fold n seg M0 (le_foldl_max_dLabels n seg) work [] (initState n seg) (J_init n seg) (by simpa using hw)
  simp only [List.nil_append] at h
  exact ⟨h.nonzero, h.untouched, h.refines, h.fresh, fun pc hpc => ⟨h.dmapKeys pc hpc, h.dmapPix pc hpc⟩⟩

/-- with relabel=True the final labels are exactly 1..N -/
theorem finalize_labels_1N (n : Nat) (st : MState) :
    dLabels n (fun p => (finalize n st true).1.getD p 0)
      = (List.range (dLabels n st.segm).length).map (1 + ·) := by
  unfold finalize
  simp only [if_true]
  rw [dLabels_congr n _ (fun p => rankMap (dLabels n st.segm) 1 (st.segm p)) (fun p hp => tab_eq n _ p hp)]
  exact relabel_labels n st.segm 1 (by omega)

/-- relabel=False leaves array and map as merged -/
theorem finalize_false (n : Nat) (st : MState) : finalize n st false = (st.segmA, st.dmap) := rfl

-- non-vacuity: two parents (labels 1 and 3) on 6 pixels, both split in two
example : WorkOK 6 (fun p => [1, 1, 0, 3, 3, 3].getD p 0)
    [(1, some (fun p => [1, 2, 0, 0, 0, 0].getD p 0)), (3, some (fun p => [0, 0, 0, 1, 2, 2].getD p 0))] := by
  refine ⟨by decide, fun lr hlr => ?_⟩
  simp only [List.mem_cons, List.not_mem_nil, or_false] at hlr
  rcases hlr with rfl | rfl
  · exact ⟨by decide, fun c hc => by cases hc; exact ⟨by decide, by decide⟩⟩
  · exact ⟨by decide, fun c hc => by cases hc; exact ⟨by decide, by decide⟩⟩

end PhotVerif.C06
