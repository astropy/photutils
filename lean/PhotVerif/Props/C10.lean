/-
  C10 — soundness of the may-alias analysis: a function whose effect program is accepted (`safe`) never writes
  to a buffer the caller supplied, on any execution path, for any number of loop iterations.
  The effect programs are regenerated from the Python source on every run (Gen/EffectsTable.lean).  To decide
  `safe` on all of them cheaply the analysis is given a second form, `absN`, whose abstract state is one natural
  number read as a bit matrix (Proofs/EffectsBits.lean); `safe_eq_safeN` says the two forms accept the same programs.
-/
import PhotVerif.Model.Effects
import PhotVerif.Proofs.EffectsBits

namespace PhotVerif.C10
open PhotVerif.Model.Effects

theorem get_map_range (n : Nat) (f : Nat → List Nat) (v : Nat) :
    ((List.range n).map f).getD v [] = if v < n then f v else [] := by
  split <;> simp [List.getD_eq_getElem?_getD, *]

theorem get_nil_of_ge (a : AState) (v : Var) (h : a.length ≤ v) : a.get v = [] := by
  rw [AState.get, List.getD_eq_getElem?_getD, List.getElem?_eq_none h]; rfl

/-- `AState.set` updates one variable, whether or not the state was pre-sized for it -/
theorem get_set (a : AState) (d v : Nat) (l : List Nat) : (a.set d l).get v = if v = d then l else a.get v := by
  by_cases hd : d < a.length
  · simp only [AState.set, AState.get, List.getD_eq_getElem?_getD, List.getElem?_set, if_pos hd, eq_comm (a := d)]
    split <;> rfl
  · rw [AState.set, if_neg hd, AState.get, get_map_range]
    split
    · rfl
    · rw [if_neg (show ¬ v = d by omega), get_nil_of_ge a v (by omega)]

theorem get_entry (k nv v : Nat) : (entry k nv).get v = if v < k then [v] else [] := by
  rw [entry, AState.get, get_map_range]
  split
  · rfl
  · rw [if_neg (show ¬ v < k by omega)]

theorem mem_union (x y : List Nat) (b : Nat) : b ∈ union x y ↔ b ∈ x ∨ b ∈ y := by
  by_cases h : b ∈ x <;> simp [union, h]

@[simp]
theorem get_cons_zero (x : List Nat) (a : AState) : AState.get (x :: a) 0 = x := rfl
@[simp]
theorem get_cons_succ (x : List Nat) (a : AState) (v : Nat) : AState.get (x :: a) (v + 1) = AState.get a v := rfl
@[simp]
theorem get_nil (v : Nat) : AState.get [] v = [] := rfl

theorem union_nil_left (y : List Nat) (b : Nat) : b ∈ union [] y ↔ b ∈ y := by rw [mem_union]; simp
theorem union_nil_right (x : List Nat) : union x [] = x := by simp [union]

/-- membership form (the list representation of a join is not canonical) -/
theorem mem_get_join {a b : AState} {v : Var} {x : Nat} : x ∈ (join a b).get v ↔ x ∈ a.get v ∨ x ∈ b.get v := by
  induction a generalizing b v with
  | nil => simp [join]
  | cons p a ih => cases b <;> cases v <;> simp [join, mem_union, ih]

theorem le_iff {a b : AState} : a.le b = true ↔ ∀ v x, x ∈ a.get v → x ∈ b.get v := by
  induction a generalizing b with
  | nil => simp [AState.le]
  | cons p a ih =>
    rw [← Nat.and_forall_add_one]
    cases b <;> simp [AState.le, subset, ih, List.eq_nil_iff_forall_not_mem]

theorem le_iterJoin (f : AState → AState) (n : Nat) (a : AState) (v : Var) (x : Nat) (hx : x ∈ a.get v) :
    x ∈ (iterJoin f n a).get v := by
  induction n generalizing a with
  | zero => exact hx
  | succ n ih =>
    rw [iterJoin]
    split
    · exact hx
    · exact ih _ (mem_get_join.2 (.inl hx))

/-- the abstract state over-approximates which input buffers each variable points to -/
def Sound (k : Nat) (A : AState) (s : CState) : Prop := ∀ v b, s.env v = some b → b < k → b ∈ A.get v

/-- no input buffer is written between s and s' -/
def NoNewInputWrite (k : Nat) (s s' : CState) : Prop := ∀ b ∈ s'.written, b < k → b ∈ s.written

theorem NoNewInputWrite.refl (k : Nat) (s : CState) : NoNewInputWrite k s s := fun _ hb _ => hb

theorem NoNewInputWrite.trans {k : Nat} {s s₁ s₂ : CState} (h₁ : NoNewInputWrite k s s₁)
    (h₂ : NoNewInputWrite k s₁ s₂) : NoNewInputWrite k s s₂ := fun b hb hk => h₁ b (h₂ b hb hk) hk

theorem Sound.mono {k : Nat} {A B : AState} {s : CState} (h : Sound k A s) (hle : ∀ v x, x ∈ A.get v → x ∈ B.get v) :
    Sound k B s := fun v b hv hb => hle v b (h v b hv hb)

/-- rebinding `d` to `o`, where `l` accounts for `o` if that is an input buffer -/
theorem Sound.set {k : Nat} {A : AState} {s : CState} (hs : Sound k A s) (d : Var) {o : Option Nat} {l : List Nat}
    (hl : ∀ b, o = some b → b < k → b ∈ l) : Sound k (A.set d l) (s.set d o) := by
  intro v b hv hb
  rw [get_set]
  simp only [CState.set] at hv
  split at hv
  · rw [if_pos ‹_›]; exact hl b hv hb
  · rw [if_neg ‹_›]; exact hs v b hv hb

/-- loop lemma: at a checked post-fixpoint the invariant survives any number of iterations -/
theorem loop_sound (k : Nat) (body : Stmt) (Af A' : AState)
    (hbody : ∀ s s', Exec body s s' → Sound k Af s → k ≤ s.next →
        k ≤ s'.next ∧ Sound k A' s' ∧ NoNewInputWrite k s s')
    (hle : ∀ v x, x ∈ A'.get v → x ∈ Af.get v)
    (s s' : CState) (h : Exec (.loop body) s s') (hs : Sound k Af s) (hn : k ≤ s.next) :
    k ≤ s'.next ∧ Sound k Af s' ∧ NoNewInputWrite k s s' := by
  generalize hq : Stmt.loop body = q at h
  induction h with
  | loopDone b s0 => exact ⟨hn, hs, .refl k s0⟩
  | loopStep h1 h2 _ ih2 =>
    cases hq
    obtain ⟨a2, a1, a3⟩ := hbody _ _ h1 hs hn
    obtain ⟨b2, b1, b3⟩ := ih2 (a1.mono hle) a2 rfl
    exact ⟨b2, b1, a3.trans b3⟩
  | _ => cases hq

theorem next_mono {p : Stmt} {s s' : CState} (h : Exec p s s') : s.next ≤ s'.next := by
  induction h with
  | fresh => exact Nat.le_succ _
  | seq _ _ i1 i2 | loopStep _ _ i1 i2 => exact Nat.le_trans i1 i2
  | iteL _ i | iteR _ i => exact i
  | _ => exact Nat.le_refl _

/-- if the analysis accepts the program then, on every execution path and for any number of
    loop iterations, its result over-approximates the aliasing and no caller-supplied buffer is written -/
theorem absExec_sound (fuel k : Nat) (p : Stmt) : ∀ (A : AState) (s s' : CState), Exec p s s' → Sound k A s → k ≤ s.next →
    (absExec fuel p A).2 = true → Sound k (absExec fuel p A).1 s' ∧ NoNewInputWrite k s s' := by
  induction p with
  | skip => intro A s s' h hs _ _; cases h; exact ⟨hs, .refl k s⟩
  | assign d x => intro A s s' h hs _ _; cases h; exact ⟨hs.set d (hs x), .refl k s⟩
  | fresh d =>
    intro A s s' h hs hn _; cases h
    -- the new buffer is `s.next ≥ k`, not an input
    exact ⟨hs.set d fun b hb hk => by cases hb; omega, .refl k s⟩
  | write v =>
    intro A s s' h hs _ hok; cases h
    refine ⟨hs, fun b hb hk => ?_⟩
    simp only [absExec, List.isEmpty_iff] at hok
    simp only [List.mem_append, Option.mem_toList] at hb
    exact hb.resolve_left fun hb => List.not_mem_nil (hok ▸ hs v b hb hk)
  | seq a b iha ihb =>
    intro A s s' h hs hn hok
    simp only [absExec, Bool.and_eq_true] at hok
    cases h with | seq h1 h2 =>
    obtain ⟨a1, a3⟩ := iha A s _ h1 hs hn hok.1
    obtain ⟨b1, b3⟩ := ihb _ _ s' h2 a1 (Nat.le_trans hn (next_mono h1)) hok.2
    exact ⟨b1, a3.trans b3⟩
  | ite a b iha ihb =>
    intro A s s' h hs hn hok
    simp only [absExec, Bool.and_eq_true] at hok ⊢
    cases h with
    | iteL h1 => exact (iha A s s' h1 hs hn hok.1).imp_left (·.mono fun v x hx => mem_get_join.2 (.inl hx))
    | iteR h1 => exact (ihb A s s' h1 hs hn hok.2).imp_left (·.mono fun v x hx => mem_get_join.2 (.inr hx))
  | loop body ih =>
    intro A s s' h hs hn hok
    simp only [absExec, Bool.and_eq_true] at hok ⊢
    exact (loop_sound k body _ _
      (fun s0 s1 he h0 hn0 => ⟨Nat.le_trans hn0 (next_mono he), ih _ s0 s1 he h0 hn0 hok.1⟩)
      (le_iff.1 hok.2) s s' h (hs.mono fun v x => le_iterJoin _ fuel A v x) hn).2

/-- the caller's k array arguments are bound to variables 0 .. k-1, each to its own buffer -/
def entryState (k : Nat) : CState := { env := fun v => if v < k then some v else none, next := k, written := [] }

theorem entry_sound (k nv : Nat) : Sound k (entry k nv) (entryState k) := by
  intro v b hv _
  rw [get_entry]
  simp only [entryState] at hv
  split at hv
  · cases hv; rw [if_pos ‹_›]; exact List.mem_singleton_self v
  · cases hv

/-- COROLLARY (the property, for the model): an accepted function never writes to a caller-supplied buffer -/
theorem safe_no_input_write (fuel k nv : Nat) (p : Stmt) (h : safe fuel k nv p = true) (s' : CState)
    (hx : Exec p (entryState k) s') : ∀ b ∈ s'.written, ¬ b < k := fun b hb hk =>
  -- nothing is written at entry
  List.not_mem_nil
    ((absExec_sound fuel k p (entry k nv) (entryState k) s' hx (entry_sound k nv) (Nat.le_refl k) h).2 b hb hk)

/-- the analysis does reject the aliasing patterns behind the historical defects: `m = mask; m |= bad` -/
example : safe 4 2 3 (.seq (.assign 2 1) (.write 2)) = false := by decide
/-- and accepts the defensive-copy form: `m = mask.copy(); m |= bad` -/
example : safe 4 2 3 (.seq (.fresh 2) (.write 2)) = true := by decide
/-- a copy made only on one branch is not enough -/
example : safe 4 1 2 (.seq (.ite (.fresh 1) (.assign 1 0)) (.write 1)) = false := by decide
/-- aliasing introduced late in a loop body is seen by the fixpoint -/
example : safe 4 1 2 (.seq (.fresh 1) (.loop (.seq (.write 1) (.assign 1 0)))) = false := by decide

open PhotVerif.EffectsBits

/-- `iterJoin` on matrices -/
def iterJoinN (f : Nat → Nat) : Nat → Nat → Nat
  | 0, a => a
  | n + 1, a =>
    let b := f a
    if b ||| a == a then a else iterJoinN f n (a ||| b)

/-- `absExec`, clause by clause, with the abstract state held as a bit matrix of stride `s`:
    bit `b` of row `v` says that variable `v` may point to input buffer `b` -/
def absN (s fuel : Nat) : Stmt → Nat → Nat × Bool
  | .skip, a => (a, true)
  | .assign d x, a => (setRow s a d (row s a x), true)
  | .fresh d, a => (setRow s a d 0, true)
  | .write v, a => (a, row s a v == 0)
  | .seq x y, a =>
    let r1 := absN s fuel x a
    let r2 := absN s fuel y r1.1
    (r2.1, r1.2 && r2.2)
  | .ite x y, a =>
    let r1 := absN s fuel x a
    let r2 := absN s fuel y a
    (r1.1 ||| r2.1, r1.2 && r2.2)
  | .loop body, a =>
    let af := iterJoinN (fun m => (absN s fuel body m).1) fuel a
    let r := absN s fuel body af
    (af, r.2 && (r.1 ||| af == af))

/-- `entry k _` as a matrix: row `v < k` is `{v}`, all other rows are empty -/
def entryN (s : Nat) : Nat → Nat
  | 0 => 0
  | k + 1 => setRow s (entryN s k) k (2 ^ k)

/-- `safe` on matrices.  The stride is `k + 1` and not `k` so that it is positive also for a function without
    array arguments: only then do the rows make up the whole number (`eq_iff_row_eq`). -/
def safeN (fuel k : Nat) (p : Stmt) : Bool := (absN (k + 1) fuel p (entryN (k + 1) k)).2

/-- the matrix `N` of stride `s` holds the abstract state `A`: row `v` is the set `A.get v` -/
def Rel (s : Nat) (A : AState) (N : Nat) : Prop := ∀ v b, b ∈ A.get v ↔ (row s N v).testBit b = true

variable {s : Nat} {A B : AState} {N M : Nat}

theorem Rel.set (h : Rel s A N) (d : Var) {l : List Nat} {m : Nat} (hm : m < 2 ^ s)
    (hl : ∀ b, b ∈ l ↔ m.testBit b = true) : Rel s (A.set d l) (setRow s N d m) := fun v b => by
  rw [get_set, row_setRow hm]
  split
  · exact hl b
  · exact h v b

theorem Rel.join (h₁ : Rel s A N) (h₂ : Rel s B M) : Rel s (join A B) (N ||| M) := fun v b => by
  rw [mem_get_join, row_or, Nat.testBit_or, Bool.or_eq_true, h₁ v b, h₂ v b]

theorem Rel.isEmpty (h : Rel s A N) (v : Var) : (A.get v).isEmpty = (row s N v == 0) := by
  rw [Bool.eq_iff_iff, List.isEmpty_iff, beq_iff_eq, List.eq_nil_iff_forall_not_mem, eq_zero_iff]
  exact forall_congr' fun b => by rw [h v b, Bool.not_eq_true]

/-- the fixpoint tests of the two forms decide alike -/
theorem Rel.le (hs : 0 < s) (h₁ : Rel s A N) (h₂ : Rel s B M) : A.le B = (N ||| M == M) := by
  rw [Bool.eq_iff_iff, le_iff, beq_iff_eq, eq_iff_row_eq hs]
  simp only [row_or, or_eq_right_iff, h₁ _ _, h₂ _ _]

theorem row_entryN {k : Nat} (hk : k ≤ s) (v : Nat) : row s (entryN s k) v = if v < k then 2 ^ v else 0 := by
  induction k with
  | zero => simp [entryN, row]
  | succ k ih =>
    rw [entryN, row_setRow (Nat.pow_lt_pow_right (by omega) hk), ih (by omega)]
    by_cases hv : v = k
    · simp [hv]
    · simp [hv, show v < k + 1 ↔ v < k by omega]

theorem Rel.entry {k : Nat} (hk : k ≤ s) (nv : Nat) : Rel s (entry k nv) (entryN s k) := fun v b => by
  rw [get_entry, row_entryN hk]
  split
  · rw [List.mem_singleton, Nat.testBit_two_pow, decide_eq_true_eq, eq_comm]
  · simp

theorem Rel.iter (hs : 0 < s) {f : AState → AState} {g : Nat → Nat} (hfg : ∀ A N, Rel s A N → Rel s (f A) (g N)) :
    ∀ n A N, Rel s A N → Rel s (iterJoin f n A) (iterJoinN g n N)
  | 0, _, _, h => h
  | n + 1, A, N, h => by
    rw [iterJoin, iterJoinN, (hfg A N h).le hs h]
    split
    · exact h
    · exact Rel.iter hs hfg n _ _ (h.join (hfg A N h))

/-- the two forms of the analysis run in step: related states in, related states and the same verdict out -/
theorem absN_refines (hs : 0 < s) (fuel : Nat) (p : Stmt) : ∀ A N, Rel s A N →
    Rel s (absExec fuel p A).1 (absN s fuel p N).1 ∧ (absExec fuel p A).2 = (absN s fuel p N).2 := by
  induction p with
  | skip => exact fun A N h => ⟨h, rfl⟩
  | assign d x => exact fun A N h => ⟨h.set d (row_lt s N x) (h x), rfl⟩
  | fresh d => exact fun A N h => ⟨h.set d (Nat.two_pow_pos s) (by simp), rfl⟩
  | write v => exact fun A N h => ⟨h, h.isEmpty v⟩
  | seq x y ihx ihy =>
    intro A N h
    obtain ⟨h1, e1⟩ := ihx A N h
    obtain ⟨h2, e2⟩ := ihy _ _ h1
    exact ⟨h2, by simp only [absExec, absN, e1, e2]⟩
  | ite x y ihx ihy =>
    intro A N h
    obtain ⟨h1, e1⟩ := ihx A N h
    obtain ⟨h2, e2⟩ := ihy A N h
    exact ⟨h1.join h2, by simp only [absExec, absN, e1, e2]⟩
  | loop body ih =>
    intro A N h
    have hf := Rel.iter hs (fun A N h => (ih A N h).1) fuel A N h
    obtain ⟨h1, e1⟩ := ih _ _ hf
    exact ⟨hf, by simp only [absExec, absN, e1, h1.le hs hf]⟩

theorem safe_eq_safeN (fuel k nv : Nat) (p : Stmt) : safe fuel k nv p = safeN fuel k p :=
  (absN_refines (Nat.succ_pos k) fuel p _ _ (.entry (Nat.le_succ k) nv)).2

end PhotVerif.C10
