/-
  C12 — PSF photometry keeps its bookkeeping straight.
  (Recovery of rendered scenes depends on the optimiser and is probed, not proved.)
-/
import PhotVerif.Model.PsfBook
import PhotVerif.Gen.PsfTable
import PhotVerif.Props.C04
import Mathlib.Tactic.Ring
import PhotVerif.Gen.ForwardTable

namespace PhotVerif.C12
open PhotVerif.Model PhotVerif.Model.CCL PhotVerif.Model.PsfBook PhotVerif.CCLTheory PhotVerif.C04

theorem mem_ptNbrs (xs ys : List Rat) (sep2 : Rat) (p q : Nat) :
    q ∈ ptNbrs xs ys sep2 p ↔ q < xs.length ∧ q ≠ p ∧
      (xs.getD p 0 - xs.getD q 0) * (xs.getD p 0 - xs.getD q 0)
        + (ys.getD p 0 - ys.getD q 0) * (ys.getD p 0 - ys.getD q 0) ≤ sep2 := by
  unfold ptNbrs
  simp only [List.mem_filter, List.mem_range, Bool.and_eq_true, bne_iff_ne, ne_eq, decide_eq_true_eq]

/-- the sources with the relation "distance ≤ min_separation" form a finite symmetric graph -/
def pointGraph (xs ys : List Rat) (sep2 : Rat) : Graph where
  n := xs.length
  fg := fun _ => true
  nbrs := ptNbrs xs ys sep2
  nbrs_fg := by
    intro p q hq
    exact ⟨rfl, ((mem_ptNbrs xs ys sep2 p q).mp hq).1⟩
  nbrs_symm := by
    intro p q _ hp hq
    obtain ⟨_, hne, hd⟩ := (mem_ptNbrs xs ys sep2 p q).mp hq
    rw [mem_ptNbrs]
    refine ⟨hp, fun e => hne e.symm, ?_⟩
    have e : (xs.getD q 0 - xs.getD p 0) * (xs.getD q 0 - xs.getD p 0)
        + (ys.getD q 0 - ys.getD p 0) * (ys.getD q 0 - ys.getD p 0)
        = (xs.getD p 0 - xs.getD q 0) * (xs.getD p 0 - xs.getD q 0)
        + (ys.getD p 0 - ys.getD q 0) * (ys.getD p 0 - ys.getD q 0) := by ring
    rw [e]; exact hd

/-- two sources get the same group id iff they are linked by a chain of sources each within
    min_separation of the next (single linkage) -/
theorem group_ids_are_components (xs ys : List Rat) (sep2 : Rat) (p q : Nat)
    (hp : p < xs.length) (hq : q < xs.length) :
    (groupIds xs ys sep2).getD p 0 = (groupIds xs ys sep2).getD q 0 ↔ Reach (pointGraph xs ys sep2) p q := by
  let G := pointGraph xs ys sep2
  let v := run xs.length (fun _ => true) (ptNbrs xs ys sep2) ((List.range xs.length).sum + 1) (Array.range xs.length)
  obtain ⟨_, hs, hf⟩ : v.size = G.n ∧ Sound G (F v) ∧ IsFix G (F v) := run_range_spec G
  -- nothing is pruned: the component of a source holds at least the source itself
  have hkept : ∀ a, a < xs.length → F v a ∈ kept xs.length (fun _ => true) v 1 := fun a ha =>
    (value_mem_kept_iff v 1 G hf hs ha rfl).mpr
      (List.countP_pos_iff.mpr ⟨a, List.mem_range.mpr ha, by simp [G, pointGraph]⟩)
  simp only [groupIds, List.getD_eq_getElem?_getD, List.getElem?_map, List.getElem?_range hp,
    List.getElem?_range hq, Option.map_some, Option.getD_some]
  rw [label_eq_iff xs.length (fun _ => true) v 1 p q rfl rfl (hkept p hp) (hkept q hq)]
  exact fix_same_value_iff_connected G (F v) hf hs p q hp hq rfl rfl

theorem orderById_of_perm {α : Type} [Inhabited α] (f : Nat → α) {sigma : List Nat} {n : Nat}
    (h : sigma.Perm (List.range n)) : orderById sigma (sigma.map f) = (List.range n).map f := by
  have hn : sigma.length = n := h.length_eq.trans List.length_range
  simp only [orderById, invPerm, List.map_map, hn]
  refine List.map_congr_left fun k hk => ?_
  have hlt : sigma.idxOf k < sigma.length := List.idxOf_lt_length_iff.mpr (h.mem_iff.mpr hk)
  simp [List.getD_eq_getElem?_getD, List.getElem?_eq_getElem hlt]

/-- values produced in grouped order and put back with `argsort(ids)` are in input order,
    for EVERY grouping permutation (any interleaving of group membership) -/
theorem ungroup_restores_input_order {α : Type} [Inhabited α] (f : Nat → α) (sigma : List Nat)
    (h : sigma.Perm (List.range sigma.length)) :
    orderById sigma (sigma.map f) = (List.range sigma.length).map f :=
  orderById_of_perm f h

/-- `group_by` only permutes the rows -/
theorem groupOrder_perm (gids : List Nat) : (groupOrder gids).Perm (List.range gids.length) :=
  List.mergeSort_perm _ _

/-- corollary: with the grouping order the table really uses, un-grouping restores the input order -/
theorem fit_results_in_input_order {α : Type} [Inhabited α] (f : Nat → α) (gids : List Nat) :
    orderById (groupOrder gids) ((groupOrder gids).map f) = (List.range gids.length).map f :=
  orderById_of_perm f (groupOrder_perm gids)

theorem groupSizes_spec (gids : List Nat) (i : Nat) (hi : i < gids.length) :
    (groupSizes gids)[i]'(by unfold groupSizes; simpa using hi) = gids.count gids[i] := by
  unfold groupSizes; simp

/-- decision logic of the documented flag bits, stated outright -/
theorem flags_bits (ny nx fy fx npix : Nat) (xfit yfit flux : Rat) :
    let fl := flags ny nx fy fx npix xfit yfit flux false false false
    (fl % 2 = 1 ↔ npix < fy * fx) ∧
    ((fl / 2) % 2 = 1 ↔ (xfit < 0 ∨ yfit < 0 ∨ xfit > nx ∨ yfit > ny)) ∧
    ((fl / 4) % 2 = 1 ↔ flux ≤ 0) := by
  unfold flags
  simp only [Bool.false_eq_true, if_false, Nat.add_zero]
  split_ifs <;> simp only [*, and_self]

-- non-vacuity: three sources on a line at x = 0, 2, 5 with min_separation 2: groups {0,1}, {2}
example : groupIds [0, 2, 5] [0, 0, 0] 4 = [1, 1, 2] := by decide +kernel
-- interleaved membership: sources 0 and 2 are close, 1 is far: ids [1, 2, 1]
example : groupIds [0, 9, 1] [0, 0, 0] 4 = [1, 2, 1] := by decide +kernel

/-- TABLE OBLIGATION: every per-source list that `__call__` reads from `_group_results` (npixfit, nmodels) and the PSF-centre
    indices used by the fit metrics go through `_ungroup`, and `_ungroup` is `_order_by_id ∘ _flatten` indexing with the
    ungroup indices - so `ungroup_restores_input_order` / `fit_results_in_input_order` apply to them (seed C12-r5 used
    `_flatten` alone for npixfit) -/
theorem per_source_results_are_ungrouped :
    (Gen.PsfTable.groupResultReads.filter fun r => r.1 == "__call__").all (fun r => r.2.2) = true ∧
    ("__call__", "npixfit", true) ∈ Gen.PsfTable.groupResultReads ∧
    ("__call__", "nmodels", true) ∈ Gen.PsfTable.groupResultReads ∧
    ("_calc_fit_metrics", "psfcenter_indices", true) ∈ Gen.PsfTable.groupResultReads ∧
    Gen.PsfTable.ungroupFlattensThenOrders = true ∧ Gen.PsfTable.orderByIdIndexesWithUngroupIndices = true := by
  decide +kernel

/-- TABLE OBLIGATION (regenerated from `PSFPhotometry._prepare_init_params`): the grouper is called, and the `group_id` column assigned,
    only under the test that the table carries no `group_id` column - a supplied grouping wins over a configured grouper (seed C12-r10
    flattened the test) -/
theorem supplied_group_id_wins : Gen.PsfTable.suppliedGroupIdWins = true := by decide

/-- TABLE OBLIGATION: in the modules of this property, every call that delegates to another photutils function, method or
    constructor passes on each value the caller holds under the callee's own parameter name (its own parameters, `self.<name>`
    attributes set in `__init__`) - dropped `subpixels`, `mask`, `connectivity`, `include_localbkg` ... keywords were a recurring
    kind of seeded change -/
theorem no_dropped_arguments : Gen.ForwardTable.droppedIn Gen.ForwardTable.scopeC12 = [] := by decide +kernel

end PhotVerif.C12
