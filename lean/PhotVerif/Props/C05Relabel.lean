/-
  C05, clause "relabel=True leaves labels 1..N": the `consec` part of the mutators' contract (`Post`), read off for every
  operation of the SegmentationImage model.
  (Defect F38 was a violation of exactly this clause: the early returns ignored `relabel`.)
-/
import PhotVerif.Props.C05

namespace PhotVerif.C05
open PhotVerif PhotVerif.Model.Segm PhotVerif.Gen.SegmTable

/-- which operations ask for consecutive labels -/
def asksRelabel : Op → Bool
  | .reassign _ _ rl => rl
  | .relabel st => st == 1
  | .keep _ rl => rl
  | .remove _ rl => rl
  | .removeMasked _ _ rl => rl
  | .removeBorder _ _ rl => rl
  | _ => false

/-- PROPERTY CLAUSE: after any operation called with `relabel=True` (or `relabel_consecutive()`) that succeeds, the labels of
    the array are exactly 1..N — whatever the state and whether or not the operation had anything to remove (defect F38) -/
theorem step_relabel_consecutive (s : State) (h : Inv s) (o : Op) (hr : asksRelabel o = true)
    (hok : (step s o).2 = .unit) : Consecutive (step s o).1 := by
  cases o with
  | reassign ls new rl => exact (reassign_post s h ls new rl).ofExcept.2 hr hok
  | relabel st => exact (relabelConsecutive_post s h st).ofExcept.2 hr hok
  | keep ls rl => exact (keepLabels_post s h ls rl).ofExcept.2 hr hok
  | remove ls rl => exact (removeLabels_post s h ls rl).ofExcept.2 hr hok
  | removeMasked m po rl =>
    rw [step_removeMasked] at hok ⊢
    split at hok
    · cases hok
    · rw [if_neg ‹_›]; exact (removeMasked_post s h _ po rl).ofExcept.2 hr hok
  | removeBorder w po rl => exact (removeBorder_post s h w po rl).ofExcept.2 hr hok
  | _ => cases hr

/-- non-vacuity: a 1 x 4 image with labels {2, 5}; `remove_labels([], relabel=True)` (nothing to remove) yields labels 1, 2 -/
example : dLabels 4 (removeLabels (init 1 4 #[2, 0, 5, 5] 255) [] true).1.d = [1, 2] := by decide +kernel

end PhotVerif.C05
