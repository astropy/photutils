/-
  C05 — SegmentationImage attributes always describe the current label array.
  Invariant: every cached attribute equals the attribute derived from the current data;
  proved to be preserved by every read and every mutator of the model (Model/Segm.lean),
  whose cache handling is the table regenerated from photutils/segmentation/core.py.
  A read changes nothing but caches (`resetCaches` of the state is unchanged); a mutator satisfies `Post`.
-/
import PhotVerif.Model.Segm
import Mathlib.Data.List.Sort

namespace PhotVerif.C05
open PhotVerif PhotVerif.Model.Segm PhotVerif.Gen.SegmTable

theorem le_foldl_max {l : List Nat} {x : Nat} (hx : x ∈ l) : x ≤ l.foldl max 0 :=
  (List.max?_eq_some_iff.mp (List.max?_cons' (x := 0) (xs := l))).2 x (List.mem_cons_of_mem 0 hx)

theorem le_maxLabel (n : Nat) (d : Nat → Nat) (p : Nat) (hp : p < n) : d p ≤ maxLabel n d := by
  unfold maxLabel
  rw [← List.foldl_map]
  exact le_foldl_max (List.mem_map_of_mem (List.mem_range.mpr hp))

theorem present_iff (n : Nat) (d : Nat → Nat) (l : Nat) : present n d l = true ↔ ∃ p, p < n ∧ d p = l := by
  unfold present; simp [List.any_eq_true]

theorem mem_dLabels (n : Nat) (d : Nat → Nat) (l : Nat) :
    l ∈ dLabels n d ↔ l ≠ 0 ∧ ∃ p, p < n ∧ d p = l := by
  unfold dLabels
  simp only [List.mem_filter, List.mem_range, Bool.and_eq_true, bne_iff_ne, ne_eq, present_iff]
  constructor
  · rintro ⟨_, h1, h2⟩; exact ⟨h1, h2⟩
  · rintro ⟨h1, p, hp, rfl⟩
    exact ⟨Nat.lt_succ_of_le (le_maxLabel n d p hp), h1, p, hp, rfl⟩

theorem dLabels_sorted (n : Nat) (d : Nat → Nat) : (dLabels n d).Pairwise (· < ·) := by
  unfold dLabels; exact List.pairwise_lt_range.filter _

theorem dLabels_nodup (n : Nat) (d : Nat → Nat) : (dLabels n d).Nodup :=
  (dLabels_sorted n d).imp (fun h => Nat.ne_of_lt h)

theorem eq_dLabels_of (n : Nat) (d : Nat → Nat) (L : List Nat) (hs : L.Pairwise (· < ·))
    (hm : ∀ l, l ∈ L ↔ l ≠ 0 ∧ ∃ p, p < n ∧ d p = l) : L = dLabels n d :=
  hs.eq_of_mem_iff (dLabels_sorted n d) (fun a => by rw [hm, mem_dLabels])

theorem dLabels_congr (n : Nat) (d d' : Nat → Nat) (h : ∀ p, p < n → d p = d' p) :
    dLabels n d = dLabels n d' :=
  eq_dLabels_of n d' _ (dLabels_sorted n d) fun l => by
    rw [mem_dLabels]
    exact and_congr_right fun _ => exists_congr fun p => and_congr_right fun hp => by rw [h p hp]

theorem pix_congr (n : Nat) (d d' : Nat → Nat) (h : ∀ p, p < n → d p = d' p) (l : Nat) :
    pix n d l = pix n d' l :=
  List.filter_congr fun p hp => by rw [h p (List.mem_range.mp hp)]

theorem dSlices_congr (n nx : Nat) (d d' : Nat → Nat) (h : ∀ p, p < n → d p = d' p) :
    dSlices n nx d = dSlices n nx d' := by
  unfold dSlices
  rw [dLabels_congr n d d' h]
  exact List.map_congr_left fun l _ => by rw [pix_congr n d d' h l]

theorem getD_map_range (n : Nat) (g : Nat → Nat) (p : Nat) (hp : p < n) :
    ((Array.range n).map g).getD p 0 = g p := by
  simp [Array.getD, hp]

theorem dLabels_tab (n : Nat) (g : Nat → Nat) : dLabels n (fun p => ((Array.range n).map g).getD p 0) = dLabels n g :=
  dLabels_congr n _ _ (getD_map_range n g)

theorem dLabels_zero (n : Nat) : dLabels n (fun _ => 0) = [] :=
  List.eq_nil_iff_forall_not_mem.mpr fun l hl => by
    obtain ⟨h0, _, _, hp⟩ := (mem_dLabels n _ l).mp hl
    exact h0 hp.symm

theorem filterMap_ite {α β : Type} (p : α → Bool) (f : α → β) (l : List α) :
    (l.filterMap fun a => if p a then some (f a) else none) = (l.filter p).map f := by
  induction l with
  | nil => rfl
  | cons a l ih => by_cases h : p a <;> simp [h, ih]

theorem dLabels_eq_map (n : Nat) (d : Nat → Nat) :
    dLabels n d = ((List.range (maxLabel n d)).filter fun i => present n d (i + 1)).map (· + 1) := by
  unfold dLabels
  rw [List.range_succ_eq_map, List.filter_cons_of_neg (by simp), List.filter_map]
  rfl

theorem dRaw_getD (n nx : Nat) (d : Nat → Nat) (i : Nat) (hi : i < maxLabel n d) :
    (dRaw n nx d).getD i none =
      if present n d (i + 1) then some (boxOf nx (pix n d (i + 1))) else none := by
  unfold dRaw
  rw [List.getD_eq_getElem?_getD, List.getElem?_map, List.getElem?_range hi]
  rfl

/-- labels recovered from cached `_raw_slices` are the labels of the array -/
theorem labelsFromRaw_dRaw (n nx : Nat) (d : Nat → Nat) : labelsFromRaw (dRaw n nx d) = dLabels n d := by
  unfold labelsFromRaw
  rw [filterMap_ite, dLabels_eq_map, show (dRaw n nx d).length = maxLabel n d by simp [dRaw]]
  congr 1
  apply List.filter_congr
  intro i hi
  rw [dRaw_getD n nx d i (List.mem_range.mp hi)]
  cases present n d (i + 1) <;> rfl

/-- slices recovered from `_raw_slices` are the per-label bounding slices in label order -/
theorem slicesFromRaw_dRaw (n nx : Nat) (d : Nat → Nat) : slicesFromRaw (dRaw n nx d) = dSlices n nx d := by
  unfold slicesFromRaw dSlices dRaw
  rw [List.filterMap_map, dLabels_eq_map, List.map_map]
  exact filterMap_ite _ _ _

/-- every cached attribute equals the attribute derived from the current array -/
structure Inv (s : State) : Prop where
  labels : ∀ l, s.cLabels = some l → l = dLabels s.n s.d
  raw : ∀ r, s.cRaw = some r → r = dRaw s.n s.nx s.d
  slices : ∀ r, s.cSlices = some r → r = dSlices s.n s.nx s.d
  areas : ∀ r, s.cAreas = some r → r = dAreas s.n s.d
  nlabels : ∀ k, s.cNlabels = some k → k = (dLabels s.n s.d).length
  max : ∀ m, s.cMax = some m → m = (dLabels s.n s.d).foldl max 0

/-- the part of the state the derived attributes depend on -/
def SameFrame (s t : State) : Prop := t.n = s.n ∧ t.nx = s.nx ∧ t.d = s.d

/-- States with the same `resetCaches` differ in their caches only; whatever does not look at the caches
    (the frame, `dLabels s.n s.d`, the deblend map) is carried from one to the other by `congrArg`. -/
theorem SameFrame.of_reset {s t : State} (h : t.resetCaches = s.resetCaches) : SameFrame s t :=
  ⟨(congrArg State.n h :), (congrArg State.nx h :), (congrArg State.d h :)⟩

theorem dLabels_reset {s t : State} (h : t.resetCaches = s.resetCaches) : dLabels t.n t.d = dLabels s.n s.d :=
  (congrArg (fun u : State => dLabels u.n u.d) h :)

/-- the one new obligation when the cache `some v` is stored in a coherent state -/
theorem eq_of_some {α : Type} {v x d : α} (hv : v = d) (e : some v = some x) : x = d := Option.some.inj e ▸ hv

/-- `r` answers a read of the attribute `G` (a function of the frame) on `s`: a coherent state that differs from `s`
    in caches only, and the attribute derived from its array -/
abbrev ReadOK {α : Type} (G : Nat → Nat → (Nat → Nat) → α) (s : State) (r : State × α) : Prop :=
  Inv r.1 ∧ r.1.resetCaches = s.resetCaches ∧ r.2 = G r.1.n r.1.nx r.1.d

theorem ReadOK.fresh {α : Type} {G : Nat → Nat → (Nat → Nat) → α} {s : State} {r : State × α} (h : ReadOK G s r) :
    r.2 = G s.n s.nx s.d := by
  obtain ⟨e1, e2, e3⟩ := SameFrame.of_reset h.2.1
  rw [← e1, ← e2, ← e3]; exact h.2.2

theorem readLabels_ok (s : State) (h : Inv s) : ReadOK (fun n _ d => dLabels n d) s (readLabels s) := by
  unfold readLabels
  cases hc : s.cLabels with
  | some l => exact ⟨h, rfl, h.labels l hc⟩
  | none =>
    cases hr : s.cRaw with
    | none => exact ⟨{ h with labels := fun _ => eq_of_some rfl }, rfl, rfl⟩
    | some raw =>
      have hv : labelsFromRaw raw = dLabels s.n s.d := by rw [h.raw raw hr]; exact labelsFromRaw_dRaw _ _ _
      exact ⟨{ h with labels := fun _ => eq_of_some hv }, rfl, hv⟩

theorem readRaw_ok (s : State) (h : Inv s) : ReadOK dRaw s (readRaw s) := by
  unfold readRaw
  cases hc : s.cRaw with
  | some r => exact ⟨h, rfl, h.raw r hc⟩
  | none => exact ⟨{ h with raw := fun _ => eq_of_some rfl }, rfl, rfl⟩

theorem readSlices_ok (s : State) (h : Inv s) : ReadOK dSlices s (readSlices s) := by
  unfold readSlices
  cases hc : s.cSlices with
  | some r => exact ⟨h, rfl, h.slices r hc⟩
  | none =>
    obtain ⟨h1, f1, v1⟩ := readRaw_ok s h
    generalize readRaw s = r1 at *
    have hv := (congrArg slicesFromRaw v1).trans (slicesFromRaw_dRaw _ _ _)
    exact ⟨{ h1 with slices := fun _ => eq_of_some hv }, f1, hv⟩

theorem readAreas_ok (s : State) (h : Inv s) : ReadOK (fun n _ d => dAreas n d) s (readAreas s) := by
  unfold readAreas
  cases hc : s.cAreas with
  | some r => exact ⟨h, rfl, h.areas r hc⟩
  | none =>
    obtain ⟨h1, f1, v1⟩ := readLabels_ok s h
    obtain ⟨h2, f2, -⟩ := readSlices_ok _ h1
    beta_reduce at v1
    rw [← dLabels_reset f2] at v1
    dsimp only
    generalize readSlices (readLabels s).1 = r2 at *
    have hv := congrArg (List.map fun l => (pix r2.1.n r2.1.d l).length) v1
    exact ⟨{ h2 with areas := fun _ => eq_of_some hv }, f2.trans f1, hv⟩

theorem readNlabels_ok (s : State) (h : Inv s) : ReadOK (fun n _ d => (dLabels n d).length) s (readNlabels s) := by
  unfold readNlabels
  cases hc : s.cNlabels with
  | some r => exact ⟨h, rfl, h.nlabels r hc⟩
  | none =>
    obtain ⟨h1, f1, v1⟩ := readLabels_ok s h
    generalize readLabels s = r1 at *
    have hv := congrArg List.length v1
    exact ⟨{ h1 with nlabels := fun _ => eq_of_some hv }, f1, hv⟩

theorem readMax_ok (s : State) (h : Inv s) : ReadOK (fun n _ d => (dLabels n d).foldl max 0) s (readMax s) := by
  unfold readMax
  cases hc : s.cMax with
  | some r => exact ⟨h, rfl, h.max r hc⟩
  | none =>
    obtain ⟨h1, f1, v1⟩ := readNlabels_ok s h
    generalize readNlabels s = r1 at *
    dsimp only
    split
    · have hv : 0 = (dLabels r1.1.n r1.1.d).foldl max 0 := by
        rw [List.eq_nil_of_length_eq_zero (v1.symm.trans ‹_›)]; rfl
      exact ⟨{ h1 with max := fun _ => eq_of_some hv }, f1, hv⟩
    · obtain ⟨h2, f2, v2⟩ := readLabels_ok _ h1
      generalize readLabels r1.1 = r2 at *
      have hv := congrArg (List.foldl max 0) v2
      exact ⟨{ h2 with max := fun _ => eq_of_some hv }, f2.trans f1, hv⟩

theorem checkLabels_ok (s : State) (h : Inv s) (ls : List Nat) :
    Inv (checkLabels s ls).1 ∧ (checkLabels s ls).1.resetCaches = s.resetCaches :=
  ⟨(readLabels_ok s h).1, (readLabels_ok s h).2.1⟩

theorem rankMap_of_mem {labs : List Nat} {st l : Nat} (h : l ∈ labs) :
    rankMap labs st l = st + labs.idxOf l := by
  unfold rankMap; simp [h]

theorem rankMap_of_not_mem {labs : List Nat} {st l : Nat} (h : l ∉ labs) : rankMap labs st l = 0 := by
  unfold rankMap; simp [h]

theorem rankMap_eq_iff {labs : List Nat} (hn : labs.Nodup) {st i : Nat} (hst : 0 < st) (hi : i < labs.length) (x : Nat) :
    rankMap labs st x = st + i ↔ x = labs[i] := by
  by_cases hx : x ∈ labs
  · rw [rankMap_of_mem hx, Nat.add_left_cancel_iff]
    constructor
    · rintro rfl; exact (List.getElem_idxOf _).symm
    · rintro rfl; exact hn.idxOf_getElem i hi
  · rw [rankMap_of_not_mem hx]
    constructor
    · omega
    · rintro rfl; exact absurd (List.getElem_mem hi) hx

/-- for a label array `d` with labels `labs`, the renumbered array has labels `st, st+1, …` -/
theorem relabel_labels (n : Nat) (d : Nat → Nat) (st : Nat) (hst : 0 < st) :
    dLabels n (fun p => rankMap (dLabels n d) st (d p))
      = (List.range (dLabels n d).length).map (st + ·) := by
  symm
  apply eq_dLabels_of
  · rw [List.pairwise_map]
    exact List.pairwise_lt_range.imp (fun h => by omega)
  · intro k
    simp only [List.mem_map, List.mem_range]
    constructor
    · rintro ⟨i, hi, rfl⟩
      obtain ⟨_, p, hp, hdp⟩ := (mem_dLabels n d _).mp (List.getElem_mem hi)
      exact ⟨by omega, p, hp, (rankMap_eq_iff (dLabels_nodup n d) hst hi _).mpr hdp⟩
    · rintro ⟨hk, p, hp, rfl⟩
      have hm : d p ∈ dLabels n d := by
        by_contra hm; exact hk (rankMap_of_not_mem hm)
      exact ⟨_, List.idxOf_lt_length_iff.mpr hm, (rankMap_of_mem hm).symm⟩

theorem pix_relabel (n : Nat) (d : Nat → Nat) (st : Nat) (hst : 0 < st) (i : Nat)
    (hi : i < (dLabels n d).length) :
    pix n (fun p => rankMap (dLabels n d) st (d p)) (st + i) = pix n d ((dLabels n d)[i]) :=
  List.filter_congr fun p _ => decide_eq_decide.mpr (rankMap_eq_iff (dLabels_nodup n d) hst hi (d p))

theorem relabel_map_pix {β : Type} (g : List Nat → β) (n : Nat) (d : Nat → Nat) (st : Nat) (hst : 0 < st) :
    ((dLabels n fun p => rankMap (dLabels n d) st (d p)).map fun l => g (pix n (fun p => rankMap (dLabels n d) st (d p)) l))
      = (dLabels n d).map fun l => g (pix n d l) := by
  rw [relabel_labels n d st hst, List.map_map]
  apply List.ext_getElem
  · simp
  · intro i h1 _
    simp only [List.length_map, List.length_range] at h1
    simp only [List.getElem_map, List.getElem_range, Function.comp, pix_relabel n d st hst i h1]

/-- the per-label bounding slices are unchanged by consecutive renumbering ("slice order is unchanged") -/
theorem relabel_slices (n nx : Nat) (d : Nat → Nat) (st : Nat) (hst : 0 < st) :
    dSlices n nx (fun p => rankMap (dLabels n d) st (d p)) = dSlices n nx d :=
  relabel_map_pix (boxOf nx) n d st hst

theorem relabel_areas (n : Nat) (d : Nat → Nat) (st : Nat) (hst : 0 < st) :
    dAreas n (fun p => rankMap (dLabels n d) st (d p)) = dAreas n d :=
  relabel_map_pix List.length n d st hst

/-- the labels of the state's array are exactly 1, 2, …, N -/
def Consecutive (s : State) : Prop :=
  dLabels s.n s.d = (List.range (dLabels s.n s.d).length).map (1 + ·)

theorem consec_of_eq {l : List Nat} {k : Nat} (h : l = (List.range k).map (1 + ·)) :
    l = (List.range l.length).map (1 + ·) := by subst h; simp

theorem Consecutive.of_frame {s t : State} (hf : SameFrame s t) (h : Consecutive s) : Consecutive t := by
  unfold Consecutive at *; rw [hf.1, hf.2.2]; exact h

theorem le_getLast_of_sorted : ∀ (a : Nat) (t : List Nat), (a :: t).Pairwise (· < ·) →
    a + t.length ≤ (a :: t).getLastD 0 ∧ ((a :: t).getLastD 0 = a + t.length → a :: t = List.range' a (t.length + 1))
  | a, [], _ => ⟨Nat.le_refl _, fun _ => rfl⟩
  | a, b :: t, hs => by
    obtain ⟨h1, h2⟩ := le_getLast_of_sorted b t hs.of_cons
    have hab : a < b := List.rel_of_pairwise_cons hs List.mem_cons_self
    have e : (a :: b :: t).getLastD 0 = (b :: t).getLastD 0 := rfl
    rw [e, List.length_cons]
    refine ⟨by omega, fun h => ?_⟩
    obtain rfl : b = a + 1 := by omega
    rw [List.range'_succ, ← h2 (by omega)]

/-- the test by which `relabel_consecutive(1)` finds that there is nothing to do -/
theorem consec_of_check {l : List Nat} (hs : l.Pairwise (· < ·))
    (h : (l.headD 0 == 1 && l.getLastD 0 - l.headD 0 + 1 == l.length) = true) : l = (List.range l.length).map (1 + ·) := by
  cases l with
  | nil => rfl
  | cons a t =>
    simp only [Bool.and_eq_true, beq_iff_eq, List.headD_cons, List.length_cons] at h
    obtain ⟨rfl, h⟩ := h
    have := le_getLast_of_sorted 1 t hs
    rw [← List.range'_eq_map_range]
    exact this.2 (by have := this.1; omega)

theorem commit_reassignRow (s : State) (newd : Array Nat) (f : Nat → Nat) (labels : List Nat) (old : Option (List Box)) :
    commit reassignRow s newd f labels old = { s.resetCaches with data := newd, dmap := updateDmap s.dmap f } := rfl

theorem commit_relabelRow (s : State) (newd : Array Nat) (f : Nat → Nat) (labels : List Nat) (old : Option (List Box)) :
    commit relabelRow s newd f labels old =
      { s.resetCaches with data := newd, cLabels := some labels, cSlices := old, dmap := updateDmap s.dmap f } := by
  cases old <;> rfl

theorem commit_setterRow (s : State) (newd : Array Nat) (f : Nat → Nat) (labels : List Nat) (old : Option (List Box)) :
    commit setterRow s newd f labels old = { s.resetCaches with data := newd, cLabels := some labels, dmap := [] } := rfl

/-- TABLE OBLIGATION (reassign_labels): the generated row resets every cache and seeds nothing,
    so the state after the mutator is coherent whatever was cached before. -/
theorem commit_reassign_inv (s : State) (newd : Array Nat) (f : Nat → Nat) :
    Inv (commit reassignRow s newd f [] none) :=
  ⟨nofun, nofun, nofun, nofun, nofun, nofun⟩

/-- TABLE OBLIGATION (data setter): caches reset, `labels` re-seeded with the new array's labels -/
theorem commit_setter_inv (s : State) (ny nx : Nat) (newd : Array Nat) (dtmax : Nat) :
    Inv (setData s ny nx newd dtmax) := by
  unfold setData
  rw [commit_setterRow]
  exact ⟨fun _ => eq_of_some rfl, nofun, nofun, nofun, nofun, nofun⟩

/-- the relabel row re-seeds `slices` with whatever slices were cached at some point before: any `old` that was right for
    the old array is right for the new one -/
theorem commit_relabel_inv_of (s : State) (st : Nat) (hst : 0 < st) (old : Option (List Box))
    (hold : ∀ o, old = some o → o = dSlices s.n s.nx s.d) :
    Inv (commit relabelRow s ((Array.range s.n).map fun p => rankMap (dLabels s.n s.d) st (s.d p))
      (rankMap (dLabels s.n s.d) st) ((List.range (dLabels s.n s.d).length).map (st + ·)) old) := by
  rw [commit_relabelRow]
  refine ⟨fun _ => eq_of_some ?_, nofun, fun o ho => ?_, nofun, nofun, nofun⟩
  · exact ((dLabels_tab _ _).trans (relabel_labels s.n s.d st hst)).symm
  · exact (hold o ho).trans ((dSlices_congr _ _ _ _ (getD_map_range _ _)).trans (relabel_slices s.n s.nx s.d st hst)).symm

/-- TABLE OBLIGATION (relabel_consecutive): caches reset; `labels` re-seeded with start..start+N-1 and
    `slices` re-seeded with the *old* slices — both equal what a fresh object derives from the new array. -/
theorem commit_relabel_inv (s : State) (hinv : Inv s) (st : Nat) (hst : 0 < st) :
    let labs := dLabels s.n s.d
    let f := rankMap labs st
    let newd := (Array.range s.n).map fun p => f (s.d p)
    Inv (commit relabelRow s newd f ((List.range labs.length).map (st + ·)) s.cSlices) :=
  commit_relabel_inv_of s st hst s.cSlices hinv.slices

/-- the deblended-label map never names an absent label -/
def DmapOK (s : State) : Prop := ∀ pc ∈ s.dmap, ∀ c ∈ pc.2, c ∈ dLabels s.n s.d

theorem DmapOK.of_reset {s t : State} (hf : t.resetCaches = s.resetCaches) (h : DmapOK s) : DmapOK t :=
  (hf ▸ (h : DmapOK s.resetCaches) : DmapOK t.resetCaches)

theorem mem_updateDmap (dm : List (Nat × List Nat)) (f : Nat → Nat) (pc : Nat × List Nat)
    (h : pc ∈ updateDmap dm f) (c : Nat) (hc : c ∈ pc.2) :
    c ≠ 0 ∧ ∃ pc0 ∈ dm, ∃ c0 ∈ pc0.2, c = f c0 := by
  simp only [updateDmap, dmapDropsZero, dmapDropsEmpty, if_true, List.mem_filter, List.mem_map] at h
  obtain ⟨⟨pc0, hpc0, rfl⟩, _⟩ := h
  simp only [List.mem_filter, List.mem_map, bne_iff_ne, ne_eq] at hc
  obtain ⟨⟨c0, hc0, rfl⟩, hne⟩ := hc
  exact ⟨hne, pc0, hpc0, c0, hc0, rfl⟩

theorem dmapOK_update (n : Nat) (d d' : Nat → Nat) (f : Nat → Nat) (dm : List (Nat × List Nat))
    (hd : ∀ p, p < n → d' p = f (d p))
    (h : ∀ pc ∈ dm, ∀ c ∈ pc.2, c ∈ dLabels n d) :
    ∀ pc ∈ updateDmap dm f, ∀ c ∈ pc.2, c ∈ dLabels n d' := by
  intro pc hpc c hc
  obtain ⟨hne, pc0, hpc0, c0, hc0, rfl⟩ := mem_updateDmap dm f pc hpc c hc
  obtain ⟨_, p, hp, hdp⟩ := (mem_dLabels n d c0).mp (h pc0 hpc0 c0 hc0)
  exact (mem_dLabels n d' _).mpr ⟨hne, p, hp, by rw [hd p hp, hdp]⟩

/-- the contract of a label mutator returning `r` when called with `relabel = rl` on the coherent state `s` -/
structure Post (s : State) (rl : Bool) (r : State × Except Err Unit) : Prop where
  inv : Inv r.1
  dmap : DmapOK s → DmapOK r.1
  consec : rl = true → r.2 = .ok () → Consecutive r.1

theorem Post.switch {s t : State} {rl : Bool} {r : State × Except Err Unit} (hf : t.resetCaches = s.resetCaches)
    (h : Post t rl r) : Post s rl r :=
  ⟨h.inv, fun hd => h.dmap (hd.of_reset hf), h.consec⟩

/- The successful end of a mutator: the array becomes `f ∘ d` for the relabel map `f`, and the deblend map is pushed
   through `f`. -/

theorem Post.reassign (s : State) (rl : Bool) (f : Nat → Nat)
    (hc : rl = true → ∃ k, dLabels s.n (fun p => f (s.d p)) = (List.range k).map (1 + ·)) :
    Post s rl (commit reassignRow s ((Array.range s.n).map fun p => f (s.d p)) f [] none, .ok ()) :=
  ⟨commit_reassign_inv _ _ _, dmapOK_update s.n s.d _ f s.dmap (getD_map_range s.n _),
    fun hr _ => (hc hr).elim fun _ hk => consec_of_eq ((dLabels_tab _ _).trans hk)⟩

theorem Post.relabel (s : State) (rl : Bool) (st : Nat) (hst : 0 < st) (old : Option (List Box))
    (hold : ∀ o, old = some o → o = dSlices s.n s.nx s.d) (hc : rl = true → st = 1) :
    Post s rl (commit relabelRow s ((Array.range s.n).map fun p => rankMap (dLabels s.n s.d) st (s.d p))
      (rankMap (dLabels s.n s.d) st) ((List.range (dLabels s.n s.d).length).map (st + ·)) old, .ok ()) := by
  have hi := commit_relabel_inv_of s st hst old hold
  rw [commit_relabelRow] at hi ⊢
  refine ⟨hi, dmapOK_update s.n s.d _ _ s.dmap (getD_map_range s.n _), fun hr _ => ?_⟩
  obtain rfl := hc hr
  exact consec_of_eq ((dLabels_tab _ _).trans (relabel_labels s.n s.d 1 hst))

/- The walks below follow the control structure of each mutator.  After a read they go on from the state it returned
   (`Post.switch`) and forget how it was computed (`generalize`), so the goal stays small; the `if`s are taken apart with
   `iteInduction`, because `split` is slow on goals of this size. -/

theorem relabelConsecutive_post (s : State) (h : Inv s) (start : Int) :
    Post s (start == 1) (relabelConsecutive s start) := by
  unfold relabelConsecutive
  obtain ⟨h1, f1, v1⟩ := readNlabels_ok s h
  refine .switch f1 ?_
  generalize readNlabels s = r1 at h1 v1 ⊢
  dsimp only
  refine iteInduction (fun h0 => ?_) fun _ => ?_
  · refine ⟨h1, id, fun _ _ => ?_⟩
    unfold Consecutive
    rw [List.eq_nil_of_length_eq_zero (v1.symm.trans h0)]; rfl
  refine iteInduction (fun _ => ⟨h1, id, nofun⟩) fun hpos => ?_
  refine iteInduction (fun _ => ⟨h1, id, nofun⟩) fun _ => ?_
  obtain ⟨h2, f2, v2⟩ := readLabels_ok _ h1
  refine .switch f2 ?_
  beta_reduce at v1 v2
  rw [← dLabels_reset f2] at v1
  generalize readLabels r1.1 = r2 at h2 v2 v1 ⊢
  obtain ⟨s2, labs⟩ := r2
  dsimp only at h2 v2 v1 ⊢
  subst v2
  rw [v1]
  refine iteInduction (fun hchk => ?_) fun _ => ?_
  · refine ⟨h2, id, fun hr _ => ?_⟩
    obtain rfl : start = 1 := eq_of_beq hr
    exact consec_of_check (dLabels_sorted _ _) hchk
  · obtain ⟨h3, f3, -⟩ := readMax_ok s2 h2
    refine .switch f3 ?_
    have hold := fun o ho => (h2.slices o ho).trans (congrArg (fun u : State => dSlices u.n u.nx u.d) f3 :).symm
    rw [← dLabels_reset f3]
    exact .relabel _ _ _ (by omega) _ hold fun hr => by rw [eq_of_beq hr]; rfl

theorem reassign_post (s : State) (h : Inv s) (ls : List Nat) (new : Nat) (rl : Bool) :
    Post s rl (reassign s ls new rl) := by
  unfold reassign
  obtain ⟨h1, f1⟩ := checkLabels_ok s h ls
  refine .switch f1 ?_
  generalize checkLabels s ls = r1 at h1 ⊢
  dsimp only
  refine iteInduction (fun _ => ⟨h1, id, nofun⟩) fun _ => ?_
  refine iteInduction (fun _ => ?_) fun _ => ?_
  · -- nothing to reassign
    cases rl
    · exact ⟨h1, id, nofun⟩
    · exact relabelConsecutive_post _ h1 1
  obtain ⟨h2, f2, -⟩ := readMax_ok _ h1
  refine .switch f2 ?_
  generalize readMax r1.1 = r2 at h2 ⊢
  obtain ⟨h3, f3, -⟩ := readLabels_ok _ h2
  refine .switch f3 ?_
  generalize readLabels r2.1 = r3 at h3 ⊢
  refine iteInduction (fun _ => ⟨h3, id, nofun⟩) fun _ => ?_
  refine .reassign _ _ _ fun hr => ?_
  subst hr
  exact ⟨_, relabel_labels _ (fun p => if ls.contains (r3.1.d p) then new else r3.1.d p) 1 Nat.one_pos⟩

theorem removeLabels_post (s : State) (h : Inv s) (ls : List Nat) (rl : Bool) :
    Post s rl (removeLabels s ls rl) := by
  unfold removeLabels
  obtain ⟨h1, f1⟩ := checkLabels_ok s h ls
  exact .switch f1 (iteInduction (fun _ => ⟨h1, id, nofun⟩) fun _ => reassign_post _ h1 _ _ _)

theorem keepLabels_post (s : State) (h : Inv s) (ls : List Nat) (rl : Bool) :
    Post s rl (keepLabels s ls rl) := by
  unfold keepLabels
  obtain ⟨h1, f1⟩ := checkLabels_ok s h ls
  obtain ⟨h2, f2, -⟩ := readLabels_ok _ h1
  exact .switch f1 (iteInduction (fun _ => ⟨h1, id, nofun⟩) fun _ => .switch f2 (removeLabels_post _ h2 _ _))

theorem removeMasked_post (s : State) (h : Inv s) (mask : Nat → Bool) (po rl : Bool) :
    Post s rl (removeMasked s mask po rl) :=
  removeLabels_post s h _ rl

theorem removeBorder_post (s : State) (h : Inv s) (w : Nat) (po rl : Bool) :
    Post s rl (removeBorder s w po rl) :=
  iteInduction (fun _ => ⟨h, id, nofun⟩) fun _ => removeMasked_post s h _ po rl

/-- every label mutator keeps the deblended-label map naming only labels that are
    present in the array (removed children are dropped, renumbered children follow the relabel map). -/
theorem mutators_keep_dmap_sound (s : State) (hi : Inv s) (h : DmapOK s) :
    (∀ ls new rl, DmapOK (reassign s ls new rl).1) ∧ (∀ st, DmapOK (relabelConsecutive s st).1) ∧
    (∀ ls rl, DmapOK (removeLabels s ls rl).1) ∧ (∀ ls rl, DmapOK (keepLabels s ls rl).1) ∧
    (∀ m po rl, DmapOK (removeMasked s m po rl).1) ∧ (∀ w po rl, DmapOK (removeBorder s w po rl).1) :=
  ⟨fun ls new rl => (reassign_post s hi ls new rl).dmap h, fun st => (relabelConsecutive_post s hi st).dmap h,
    fun ls rl => (removeLabels_post s hi ls rl).dmap h, fun ls rl => (keepLabels_post s hi ls rl).dmap h,
    fun m po rl => (removeMasked_post s hi m po rl).dmap h, fun w po rl => (removeBorder_post s hi w po rl).dmap h⟩

/-- assigning new data resets the map (fresh-object behaviour) -/
theorem setData_dmap (s : State) (ny nx : Nat) (newd : Array Nat) (dtmax : Nat) :
    (setData s ny nx newd dtmax).dmap = [] := rfl

theorem Post.ofExcept {s : State} {rl : Bool} {r : State × Except Err Unit} (h : Post s rl r) :
    Inv (ofExcept r).1 ∧ (rl = true → (ofExcept r).2 = .unit → Consecutive (ofExcept r).1) := by
  obtain ⟨t, e⟩ := r
  cases e with
  | error e => exact ⟨h.inv, nofun⟩
  | ok u => exact ⟨h.inv, fun hr _ => h.consec hr rfl⟩

theorem step_removeMasked (s : State) (m : List Bool) (po rl : Bool) :
    step s (.removeMasked m po rl) = if m.length ≠ s.n then (s, .err Err.ValueError)
      else ofExcept (removeMasked s (fun p => m.getD p false) po rl) := rfl

theorem step_inv (s : State) (h : Inv s) (o : Op) : Inv (step s o).1 := by
  cases o with
  | readLabels => exact (readLabels_ok s h).1
  | readRaw => exact (readRaw_ok s h).1
  | readSlices => exact (readSlices_ok s h).1
  | readAreas => exact (readAreas_ok s h).1
  | readNlabels => exact (readNlabels_ok s h).1
  | readMax => exact (readMax_ok s h).1
  | reassign ls new rl => exact (reassign_post s h ls new rl).ofExcept.1
  | relabel st => exact (relabelConsecutive_post s h st).ofExcept.1
  | keep ls rl => exact (keepLabels_post s h ls rl).ofExcept.1
  | remove ls rl => exact (removeLabels_post s h ls rl).ofExcept.1
  | removeMasked m po rl =>
    rw [step_removeMasked]
    split
    · exact h
    · exact (removeMasked_post s h _ po rl).ofExcept.1
  | removeBorder w po rl => exact (removeBorder_post s h w po rl).ofExcept.1
  | setData ny nx data dtmax => exact commit_setter_inv s ny nx data dtmax

theorem init_inv (ny nx : Nat) (data : Array Nat) (dtmax : Nat) : Inv (init ny nx data dtmax) :=
  ⟨fun _ => eq_of_some rfl, nofun, nofun, nofun, nofun, nofun⟩

/-- after ANY finite history of mutators and reads on a fresh object, the state is coherent … -/
theorem history_inv (ny nx : Nat) (data : Array Nat) (dtmax : Nat) (ops : List Op) :
    Inv (run (init ny nx data dtmax) ops) := by
  unfold run
  have hs0 := init_inv ny nx data dtmax
  generalize init ny nx data dtmax = s0 at hs0 ⊢
  induction ops generalizing s0 with
  | nil => exact hs0
  | cons o ops ih => exact ih _ (step_inv s0 hs0 o)

/-- … hence every attribute read after the history equals the attribute a freshly constructed
    SegmentationImage derives from the same array (labels, raw slices, slices, areas, nlabels, max_label). -/
theorem history_reads_fresh (ny nx : Nat) (data : Array Nat) (dtmax : Nat) (ops : List Op) :
    let s := run (init ny nx data dtmax) ops
    (readLabels s).2 = dLabels s.n s.d ∧ (readRaw s).2 = dRaw s.n s.nx s.d ∧
    (readSlices s).2 = dSlices s.n s.nx s.d ∧ (readAreas s).2 = dAreas s.n s.d ∧
    (readNlabels s).2 = (dLabels s.n s.d).length ∧ (readMax s).2 = (dLabels s.n s.d).foldl max 0 := by
  intro s
  have h := history_inv ny nx data dtmax ops
  exact ⟨(readLabels_ok s h).fresh, (readRaw_ok s h).fresh, (readSlices_ok s h).fresh, (readAreas_ok s h).fresh,
    (readNlabels_ok s h).fresh, (readMax_ok s h).fresh⟩

/-- a zero border width removes nothing: without `relabel` the label array is unchanged; with `relabel` the call is
    exactly `relabel_consecutive()` (no label is removed, the labels become 1..N) -/
theorem removeBorder_zero_noop (s : State) (po : Bool) (hs : 0 < min s.ny s.nx) :
    (removeBorder s 0 po false).1.data = s.data ∧ (removeBorder s 0 po false).2 = .ok () ∧
    removeBorder s 0 po true = relabelConsecutive (readLabels (readLabels s).1).1 1 := by
  -- the border mask is empty, so nothing is to be removed
  have key : ∀ rl, removeBorder s 0 po rl = removeLabels s [] rl := fun rl => by
    unfold removeBorder removeMasked
    rw [if_neg (by omega), show dLabels s.n (fun p => if borderMask s.ny s.nx 0 true p then s.d p else 0) = []
      from dLabels_zero s.n]
    cases po <;> rfl
  have hd : ∀ t : State, (readLabels t).1.data = t.data := fun t => by unfold readLabels; cases t.cLabels <;> rfl
  rw [key, key]
  exact ⟨(hd _).trans (hd s), rfl, rfl⟩

-- non-vacuity: a 2×3 array with labels {2,5}, relabelled consecutively, then label 1 removed
example : (run (init 2 3 #[2, 2, 0, 0, 5, 5] 255) [.readSlices, .relabel 1, .readAreas, .remove [1] false]).data
    = #[0, 0, 0, 0, 2, 2] := by decide +kernel

end PhotVerif.C05
