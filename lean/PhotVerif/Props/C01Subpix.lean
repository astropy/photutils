/-
  C01 — 'center'/'subpixel' weights are the fraction of sub-pixel centres inside the shape.
  Theorems about the kernels regenerated from photutils/geometry/*.pyx.
-/
import PhotVerif.Gen.Geom
import PhotVerif.Proofs.FieldInst
import PhotVerif.Proofs.Loops
import Mathlib.Algebra.Order.BigOperators.Group.List

set_option linter.unusedSectionVars false
namespace PhotVerif.C01
open PhotVerif PhotVerif.Gen

section
variable {α : Type} [Field α] [LinearOrder α] [IsStrictOrderedRing α] [FloorRing α] [MathOps α]

/-- number of sub-pixel centres `(x0 + (i+½)·dx, y0 + (j+½)·dy)`, `i, j < s`, satisfying `inside` -/
def centreCount (inside : α → α → Prop) [∀ x y, Decidable (inside x y)] (s : Nat) (x0 y0 dx dy : α) : Nat :=
  ((List.range s).map (fun (i : Nat) =>
    (List.range s).countP (fun (j : Nat) =>
      decide (inside (x0 + ((i : α) + 1/2) * dx) (y0 + ((j : α) + 1/2) * dy))))).sum

theorem centreCount_le (inside : α → α → Prop) [∀ x y, Decidable (inside x y)] (s : Nat) (x0 y0 dx dy : α) :
    centreCount inside s x0 y0 dx dy ≤ s * s := by
  refine (List.sum_le_card_nsmul _ s (List.forall_mem_map.mpr fun i _ => ?_)).trans_eq (by simp)
  exact List.countP_le_length.trans_eq List.length_range

/-- the double loop shared by the three sub-pixel kernels, for an arbitrary shape predicate -/
theorem subpixel_loop (inside : α → α → Prop) [∀ x y, Decidable (inside x y)] (x0 y0 dx dy : α) (s : Nat) :
    (forRange (σ := α × α) s (x0 - 0.5 * dx, (0.0 : α)) (fun _ s_ =>
      match s_ with
      | (x, frac) =>
        match forRange (σ := α × α) s (y0 - 0.5 * dy, frac) (fun _ s_ =>
          match s_ with
          | (y, frac) => if inside (x + dx) (y + dy) then (y + dy, frac + 1.0) else (y + dy, frac)) with
        | (_, frac) => (x + dx, frac))).2
      = (centreCount inside s x0 y0 dx dy : α) := by
  rw [sum_loop s _ dx fun x => ((List.range s).map fun j : Nat =>
    if inside x (y0 - 0.5 * dy + (j + 1) * dy) then 1 else 0).sum]
  · -- the loops start half a step before the first centre
    have e (a d : α) (k : Nat) : a - 0.5 * d + (k + 1) * d = a + (k + 1 / 2) * d := by norm_num; ring
    simp only [e, centreCount, countP_eq_sum]
    norm_num
  · intro i x c
    dsimp only
    rw [sum_loop s _ dy fun y => if inside (x + dx) y then 1 else 0]
    intro j y c
    split <;> norm_num

/-- circle, centre/sub-pixel sampling: the generated double loop returns
    (#sub-pixel centres strictly inside the circle) / s². -/
theorem circ_subpixel_is_counting (x0 y0 x1 y1 r : α) (s : Nat) :
    circular_overlap_single_subpixel x0 y0 x1 y1 r (s : Int)
      = (centreCount (fun x y => x * x + y * y < r * r) s x0 y0 ((x1 - x0) / s) ((y1 - y0) / s) : α)
        / ((s : α) * (s : α)) := by
  rw [← subpixel_loop]
  simp only [circular_overlap_single_subpixel, Int.toNat_natCast, Int.cast_natCast, Int.cast_mul]

/-- ellipse (semi-axes rx, ry, rotation through the supplied cos/sin): same statement -/
theorem ell_subpixel_is_counting (x0 y0 x1 y1 rx ry theta : α) (s : Nat) :
    elliptical_overlap_single_subpixel x0 y0 x1 y1 rx ry theta (s : Int)
      = (centreCount (fun x y =>
          (y * MathOps.sin theta + x * MathOps.cos theta) * (y * MathOps.sin theta + x * MathOps.cos theta)
              * (1.0 / (rx * rx))
            + (y * MathOps.cos theta - x * MathOps.sin theta) * (y * MathOps.cos theta - x * MathOps.sin theta)
              * (1.0 / (ry * ry)) < 1.0)
          s x0 y0 ((x1 - x0) / s) ((y1 - y0) / s) : α) / ((s : α) * (s : α)) := by
  rw [← subpixel_loop]
  simp only [elliptical_overlap_single_subpixel, Int.toNat_natCast, Int.cast_natCast, Int.cast_mul]

/-- rotated rectangle: same statement with `|x'| < w/2 ∧ |y'| < h/2` -/
theorem rect_subpixel_is_counting (x0 y0 x1 y1 w h theta : α) (s : Nat) :
    rectangular_overlap_single_subpixel x0 y0 x1 y1 w h theta (s : Int)
      = (centreCount (fun x y =>
          MathOps.fabs (y * MathOps.sin theta + x * MathOps.cos theta) < w / 2.0 ∧
          MathOps.fabs (y * MathOps.cos theta - x * MathOps.sin theta) < h / 2.0)
          s x0 y0 ((x1 - x0) / s) ((y1 - y0) / s) : α) / ((s : α) * (s : α)) := by
  rw [← subpixel_loop]
  simp only [rectangular_overlap_single_subpixel, Int.toNat_natCast, Int.cast_natCast, Int.cast_mul]

/-- counting weights lie in `[0,1]` -/
theorem counting_weight_range (inside : α → α → Prop) [∀ x y, Decidable (inside x y)]
    (s : Nat) (hs : 0 < s) (x0 y0 dx dy : α) :
    0 ≤ (centreCount inside s x0 y0 dx dy : α) / ((s : α) * (s : α)) ∧
    (centreCount inside s x0 y0 dx dy : α) / ((s : α) * (s : α)) ≤ 1 :=
  ⟨div_nonneg (Nat.cast_nonneg _) (mul_self_nonneg _),
    (div_le_one (mul_pos (Nat.cast_pos.mpr hs) (Nat.cast_pos.mpr hs))).mpr
      (by exact_mod_cast centreCount_le inside s x0 y0 dx dy)⟩

/-- 'center' is 'subpixel' with s = 1: one sample at the pixel centre -/
theorem centre_is_subpixel_one (inside : α → α → Prop) [∀ x y, Decidable (inside x y)] (x0 y0 dx dy : α) :
    centreCount inside 1 x0 y0 dx dy = if inside (x0 + 1/2 * dx) (y0 + 1/2 * dy) then 1 else 0 := by
  unfold centreCount
  simp [List.range_succ, List.countP_cons]

-- non-vacuity: unit pixel [0,1]², circle r=1, 2×2 sub-pixels: centres (¼,¼),(¼,¾),(¾,¼) inside, (¾,¾) outside
example : @circular_overlap_single_subpixel Rat _ _ _ _ _ _ _ _ _ _ _ _ _
    ⟨id, id, id, id, id, 0⟩ 0 0 1 1 1 2 = 3/4 := by decide +kernel

end
end PhotVerif.C01
