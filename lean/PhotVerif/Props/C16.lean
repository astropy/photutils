/-
  C16 — ApertureStats values equal direct statistics of the aperture pixel set.
-/
import PhotVerif.Model.ApStats
import PhotVerif.Props.C02
import Mathlib.Algebra.Order.BigOperators.Group.List
import PhotVerif.Gen.ForwardTable

namespace PhotVerif.C16
open PhotVerif PhotVerif.Gen PhotVerif.Model PhotVerif.Model.ApStats PhotVerif.C01 PhotVerif.C02

theorem fin?_eq_some (d : V) (q : Rat) : fin? d = some q ↔ d = V.fin q := by cases d <;> simp [fin?]

/-- the centre-method pixel multiset is exactly: pixels of the overlap whose centre is in the aperture
    (non-zero centre weight), unmasked, finite, not sigma-clipped — with the local background subtracted -/
theorem centreVals_spec (I : Inp) (ov : List (Int × Int × Int × Int)) (y x : Int) (v : Rat) :
    (y, x, v) ∈ centreVals I ov ↔
      ∃ j i q, (y, x, j, i) ∈ ov ∧ I.data y x = V.fin q ∧ v = q - I.lb ∧ I.wc j i ≠ 0 ∧
        I.mask y x = false ∧ I.clipC y x = false := by
  unfold centreVals
  simp only [List.mem_filterMap, Prod.exists]
  constructor
  · rintro ⟨y', x', j, i, hm, h⟩
    split at h
    · split at h <;> cases h
      exact ⟨j, i, _, hm, (fin?_eq_some _ _).mp ‹_›, rfl, ‹_›⟩
    · cases h
  · rintro ⟨j, i, q, hm, hd, rfl, hc⟩
    exact ⟨y, x, j, i, hm, by simp only [hd, fin?, if_pos hc]⟩

/-- combined with the overlap geometry (C01/C02): the pixels are exactly those of box ∩ image -/
theorem overlap_pixels_spec (I : Inp) (ov : List (Int × Int × Int × Int)) (h : overlap I = .ok (some ov))
    (y x j i : Int) :
    (y, x, j, i) ∈ ov ↔ (inBox I.bbox y x ∧ inImg I.ny I.nx y x ∧ j = y - I.bbox.iymin ∧ i = x - I.bbox.ixmin) := by
  unfold overlap at h
  split at h <;> cases h
  exact mem_overlap ‹_›

/-- no overlap ⇒ nothing is measured (all statistics NaN) -/
theorem no_overlap_iff (I : Inp) : overlap I = .ok none ↔ BBox.getOverlapSlices I.bbox (I.ny, I.nx) = .ok none := by
  unfold overlap; split <;> simp_all

theorem stats_none_iff (vs : List Rat) : stats vs = none ↔ vs = [] := by
  unfold stats; cases vs <;> simp

theorem sumQ_eq (l : List Rat) : sumQ l = l.sum := List.sum_eq_foldl.symm

/-- count, sum, mean, min, max of the returned statistics are those of the pixel multiset -/
theorem stats_spec (vs : List Rat) (s : Stats) (h : stats vs = some s) :
    s.n = vs.length ∧ s.sum = vs.sum ∧ s.mean * vs.length = vs.sum ∧
    (∀ v ∈ vs, s.min ≤ v ∧ v ≤ s.max) ∧ s.min ∈ vs ∧ s.max ∈ vs ∧ 0 ≤ s.var := by
  unfold stats at h
  cases vs with
  | nil => cases h
  | cons v rest =>
    cases h
    -- `rest.foldl min v` is how `List.min?` computes the least element of `v :: rest`
    obtain ⟨hmin, hle⟩ := List.min?_eq_some_iff.mp (List.min?_cons' (x := v) (xs := rest))
    obtain ⟨hmax, hge⟩ := List.max?_eq_some_iff.mp (List.max?_cons' (x := v) (xs := rest))
    refine ⟨rfl, sumQ_eq _, ?_, fun w hw => ⟨hle w hw, hge w hw⟩, hmin, hmax, ?_⟩ <;> simp only [sumQ_eq]
    · exact div_mul_cancel₀ _ (Nat.cast_ne_zero.mpr (Nat.succ_ne_zero _))
    · exact div_nonneg (List.sum_nonneg (List.forall_mem_map.mpr fun _ _ => mul_self_nonneg _)) (Nat.cast_nonneg _)

/-- a first moment about `s` is the moment about 0 less `s` times the total weight -/
theorem sumQ_shift (l : List (Int × Int × Rat)) (g : Int × Int × Rat → Int) (s : Int) :
    sumQ (l.map fun t => ((g t - s : Int) : Rat) * t.2.2)
      = sumQ (l.map fun t => (g t : Rat) * t.2.2) - s * sumQ (l.map fun t => t.2.2) := by
  simp only [sumQ_eq]
  induction l with
  | nil => simp
  | cons t l ih => simp only [List.map_cons, List.sum_cons, ih]; push_cast; ring

/-- computing the centre of mass in cut-out coordinates (x − sx, y − sy) and adding the cut-out origin (sx, sy)
    gives the centre of mass in image coordinates — provided the origin added is the origin of the cut-out that was
    actually used (the start of the overlap slices), whatever the aperture's bounding box is -/
theorem centroid_rebase (cv : List (Int × Int × Rat)) (sx sy : Int) (I : Inp) (c : Rat × Rat)
    (h : centroid I cv = some c) :
    let m00 := sumQ (cv.map fun t => t.2.2)
    c.1 = sumQ (cv.map fun t => ((t.2.1 - sx : Int) : Rat) * t.2.2) / m00 + sx ∧
    c.2 = sumQ (cv.map fun t => ((t.1 - sy : Int) : Rat) * t.2.2) / m00 + sy := by
  simp only [centroid] at h ⊢
  split at h <;> cases h
  rw [sumQ_shift cv (·.2.1), sumQ_shift cv (·.1)]
  constructor <;> field_simp <;> ring

-- non-vacuity: three pixel values 4, 1, 7
example : (stats [4, 1, 7]).map (·.sum) = some 12 ∧ (stats [4, 1, 7]).map (·.min) = some 1 ∧
    (stats [4, 1, 7]).map (·.max) = some 7 ∧ (stats [4, 1, 7]).map (·.n) = some 3 := by decide +kernel

/-- TABLE OBLIGATION: in the modules of this property, every call that delegates to another photutils function, method or
    constructor passes on each value the caller holds under the callee's own parameter name (its own parameters, `self.<name>`
    attributes set in `__init__`) - dropped `subpixels`, `mask`, `connectivity`, `include_localbkg` ... keywords were a recurring
    kind of seeded change -/
theorem no_dropped_arguments : Gen.ForwardTable.droppedIn Gen.ForwardTable.scopeC16 =
    -- the one intended exception: the 'center' masks are built with method='center', which ignores `subpixels`
    [("aperture/stats.py", "ApertureStats._aperture_masks_center", "to_mask", "subpixels")] := by decide +kernel

end PhotVerif.C16
