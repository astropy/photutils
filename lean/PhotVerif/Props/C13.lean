/-
  C13 — PSF/PRF models are flux-normalised and interpolate their data faithfully
  (the parts that are algebra: telescoping normalisation of pixel-integrated PRFs over an abstract CDF,
  rotation identity, sample-point transform, default origin, bilinear weights).
-/
import PhotVerif.Model.Psf
import Mathlib.Tactic.FieldSimp
import Mathlib.Tactic.Ring
import Mathlib.Tactic.Linarith
import Mathlib.Algebra.BigOperators.Ring.Finset

namespace PhotVerif.C13
open PhotVerif.Model.Psf

/-- a pixel-integrated 1-D profile is a difference of a cumulative function `F` across the pixel; over any run
    of pixels a..a+n−1 the differences telescope — for EVERY `F`, sub-pixel centre `c` and width -/
theorem prf_telescopes {R : Type} [AddCommGroup R] (Fc : Int → R) (a : Int) (n : Nat) :
    (Finset.range n).sum (fun k => Fc (a + k + 1) - Fc (a + k)) = Fc (a + n) - Fc a := by
  simpa [add_assoc] using Finset.sum_range_sub (fun k : Nat => Fc (a + k)) n

/-- 2-D separable PRF (axis-aligned Gaussian PRFs: `flux · ΔFx(i) · ΔFy(j)`): the sum over a pixel rectangle
    is flux · (Fx(b) − Fx(a)) · (Fy(d) − Fy(c)), so it tends to `flux` as the window grows whenever Fx, Fy
    tend to 0 and 1 (the meaning of "sums to its flux over an unbounded pixel grid") -/
theorem prf2d_window_sum (Fx Fy : Int → Rat) (flux : Rat) (a c : Int) (n m : Nat) :
    (Finset.range m).sum (fun j => (Finset.range n).sum (fun i =>
        flux * (Fx (a + i + 1) - Fx (a + i)) * (Fy (c + j + 1) - Fy (c + j))))
      = flux * (Fx (a + n) - Fx a) * (Fy (c + m) - Fy c) := by
  simp only [← Finset.sum_mul, ← Finset.mul_sum, prf_telescopes]

/-- the circular Gaussian equals the elliptical one with equal widths at ANY rotation: the exponent is
    rotation invariant (given cos² + sin² = 1) -/
theorem rotation_invariant_radius (x y c s : Rat) (h : c * c + s * s = 1) :
    (x * c + y * s) * (x * c + y * s) + (-(x * s) + y * c) * (-(x * s) + y * c) = x * x + y * y := by
  rw [← mul_one (x * x + y * y), ← h]; ring

/-- sigma- and FWHM-parametrised forms agree: with fwhm = k·sigma the exponents coincide -/
theorem sigma_fwhm_forms_agree (r2 sigma k : Rat) (hs : sigma ≠ 0) (hk : k ≠ 0) :
    r2 / (2 * sigma * sigma) = r2 * (k * k) / (2 * (k * sigma) * (k * sigma)) := by
  field_simp

/-- the array-coordinate transform of `evaluate` inverts `t ↦ x0 + (t − origin)/oversampling`, whatever the origin -/
theorem arrayCoord_offset (os origin x0 t : Rat) (hos : os ≠ 0) :
    arrayCoord os origin (x0 + (t - origin) / os) x0 = t := by
  unfold arrayCoord
  field_simp
  ring

/-- at x = x0 + (i − origin)/oversampling the array coordinate is exactly the sample index i -/
theorem imagepsf_sample_point (os origin x0 : Rat) (i : Int) (hos : os ≠ 0) :
    arrayCoord os origin (x0 + ((i : Rat) - origin) / os) x0 = i :=
  arrayCoord_offset os origin x0 i hos

/-- TABLE OBLIGATION (constants regenerated from `GriddedPSFModel.origin` and the `ImagePSF.origin` setter): the default origin is
    `(n - 1) / 2` for both models (seed C13-r8 wrote `n // 2`, which is half a sample off for an even n) -/
theorem default_origin_constants :
    Gen.PsfOrigin.griddedSub = 1 ∧ Gen.PsfOrigin.griddedDen = 2 ∧ Gen.PsfOrigin.imageSub = 1 ∧ Gen.PsfOrigin.imageDen = 2 := by
  decide +kernel

theorem defaultOrigin_one_two (n : Nat) : defaultOrigin 1 2 n = ((n : Rat) - 1) / 2 := by
  simp [defaultOrigin]

theorem griddedOrigin_eq (n : Nat) : griddedOrigin n = ((n : Rat) - 1) / 2 := defaultOrigin_one_two n

theorem imageOrigin_eq (n : Nat) : imageOrigin n = ((n : Rat) - 1) / 2 := defaultOrigin_one_two n

/-- with the default origin the samples sit symmetrically about x_0: sample i and sample n-1-i are at opposite offsets, for every n
    (odd or even) and every oversampling -/
theorem default_origin_symmetric (os : Rat) (n i : Nat) (hi : i < n) :
    sampleOffset os (griddedOrigin n) (n - 1 - i) = - sampleOffset os (griddedOrigin n) i := by
  rw [griddedOrigin_eq, sampleOffset, sampleOffset, Nat.sub_sub, Nat.cast_sub (by omega)]
  push_cast
  ring

/-- for an odd number of samples the middle sample is exactly at x_0 -/
theorem default_origin_centre_sample (os : Rat) (k : Nat) : sampleOffset os (griddedOrigin (2 * k + 1)) k = 0 := by
  rw [griddedOrigin_eq]; unfold sampleOffset; push_cast; ring

/-- the sample offsets and the array-coordinate transform of `evaluate` are inverse to each other: at x_0 + offset(i) the array
    coordinate is i (so the model returns flux x the stored sample there) -/
theorem default_origin_round_trip (os x0 : Rat) (n i : Nat) (hos : os ≠ 0) :
    arrayCoord os (griddedOrigin n) (x0 + sampleOffset os (griddedOrigin n) i) x0 = i :=
  arrayCoord_offset os _ x0 i hos

-- non-vacuity: 8 samples → origin 7/2 (not 4); samples 0 and 7 at offsets ∓ 7/2
example : griddedOrigin 8 = 7 / 2 ∧ sampleOffset 1 (griddedOrigin 8) 0 = -(7 / 2) ∧ sampleOffset 1 (griddedOrigin 8) 7 = 7 / 2 := by
  norm_num [griddedOrigin_eq, sampleOffset]

/-- interior sample points are valid (not replaced by fill_value); points beyond the array are invalid -/
theorem sample_valid_iff (n : Nat) (i : Int) : isInvalid n (i : Rat) = false ↔ (0 ≤ i ∧ i ≤ (n : Int) - 1) := by
  simp only [isInvalid, decide_eq_false_iff_not, not_or, not_lt]
  norm_cast

theorem clipR_mem {lo hi : Rat} (x : Rat) (h : lo ≤ hi) : lo ≤ clipR x lo hi ∧ clipR x lo hi ≤ hi :=
  ⟨le_min (le_max_right _ _) h, min_le_right _ _⟩

theorem clipR_of_mem {x lo hi : Rat} (h1 : lo ≤ x) (h2 : x ≤ hi) : clipR x lo hi = x := by
  rw [clipR, max_eq_left h1, min_eq_left h2]

theorem clipR_idem (x lo hi : Rat) : clipR (clipR x lo hi) lo hi = clipR x lo hi := by
  unfold clipR
  rcases le_total lo hi with h | h
  · rw [max_eq_left (le_min (le_max_right _ _) h), min_eq_left (min_le_right _ _)]
  · rw [min_eq_right (h.trans (le_max_right x lo)), max_eq_right h, min_eq_right h]

theorem frac1_mem {x0 x1 : Rat} (x : Rat) (h : x0 ≤ x1) : 0 ≤ frac1 x0 x1 x ∧ frac1 x0 x1 x ≤ 1 := by
  unfold frac1
  split
  · exact ⟨le_rfl, zero_le_one⟩
  · rename_i hne
    obtain ⟨ha, hb⟩ := clipR_mem x h
    have hp : 0 < x1 - x0 := sub_pos.mpr (lt_of_le_of_ne h (Ne.symm hne))
    exact ⟨div_nonneg (sub_nonneg.mpr ha) hp.le, (div_le_one₀ hp).mpr (sub_le_sub_right hb _)⟩

theorem frac1_lower {x0 x1 : Rat} (h : x0 < x1) : frac1 x0 x1 x0 = 0 := by
  rw [frac1, if_neg h.ne', clipR_of_mem le_rfl h.le, sub_self, zero_div]

theorem frac1_upper {x0 x1 : Rat} (h : x0 < x1) : frac1 x0 x1 x1 = 1 := by
  rw [frac1, if_neg h.ne', clipR_of_mem h.le le_rfl, div_self (sub_pos.mpr h).ne']

/-- in every cell, proper or of zero width, the four weights are the products of the two one-axis fractions:
    the proper-cell formula of the source is the same thing over a common denominator -/
theorem bilinearWeights_eq (x0 x1 y0 y1 x y : Rat) :
    bilinearWeights x0 x1 y0 y1 x y =
      ((1 - frac1 x0 x1 x) * (1 - frac1 y0 y1 y), frac1 x0 x1 x * (1 - frac1 y0 y1 y),
       (1 - frac1 x0 x1 x) * frac1 y0 y1 y, frac1 x0 x1 x * frac1 y0 y1 y) := by
  unfold bilinearWeights
  split
  · rfl
  · rename_i h
    obtain ⟨hx, hy⟩ := not_or.mp h
    simp only [frac1, if_neg hx, if_neg hy, one_sub_div (sub_ne_zero.mpr hx), one_sub_div (sub_ne_zero.mpr hy),
      sub_sub_sub_cancel_right, div_mul_div_comm]

/-- inside a proper cell the four weights are non-negative and sum to one, for every (also exterior, clamped) position -/
theorem bilinear_weights_convex (x0 x1 y0 y1 x y : Rat) (hx : x0 < x1) (hy : y0 < y1) :
    let w := bilinearWeights x0 x1 y0 y1 x y
    0 ≤ w.1 ∧ 0 ≤ w.2.1 ∧ 0 ≤ w.2.2.1 ∧ 0 ≤ w.2.2.2 ∧ w.1 + w.2.1 + w.2.2.1 + w.2.2.2 = 1 := by
  obtain ⟨ha, hb⟩ := frac1_mem x hx.le
  obtain ⟨hc, hd⟩ := frac1_mem y hy.le
  rw [bilinearWeights_eq]
  exact ⟨mul_nonneg (sub_nonneg.mpr hb) (sub_nonneg.mpr hd), mul_nonneg ha (sub_nonneg.mpr hd),
    mul_nonneg (sub_nonneg.mpr hb) hc, mul_nonneg ha hc, by ring⟩

/-- at a grid node the weight of that node is 1 and the others 0: the model equals the stored ePSF there -/
theorem gridded_at_node (x0 x1 y0 y1 : Rat) (hx : x0 < x1) (hy : y0 < y1) :
    bilinearWeights x0 x1 y0 y1 x0 y0 = (1, 0, 0, 0) ∧ bilinearWeights x0 x1 y0 y1 x1 y1 = (0, 0, 0, 1) := by
  simp [bilinearWeights_eq, frac1_lower, frac1_upper, hx, hy]

/-- inside the cell the weights are the bilinear ones (no clamping) -/
theorem gridded_bilinear_in_cell (x0 x1 y0 y1 x y : Rat) (hx : x0 < x1) (hy : y0 < y1)
    (h1 : x0 ≤ x) (h2 : x ≤ x1) (h3 : y0 ≤ y) (h4 : y ≤ y1) :
    bilinearWeights x0 x1 y0 y1 x y =
      ((x1 - x) * (y1 - y) / ((x1 - x0) * (y1 - y0)), (x - x0) * (y1 - y) / ((x1 - x0) * (y1 - y0)),
       (x1 - x) * (y - y0) / ((x1 - x0) * (y1 - y0)), (x - x0) * (y - y0) / ((x1 - x0) * (y1 - y0))) := by
  rw [bilinearWeights, if_neg (not_or.mpr ⟨hx.ne', hy.ne'⟩), clipR_of_mem h1 h2, clipR_of_mem h3 h4]

/-- outside the grid the position is clamped: the weights are those of the nearest point of the cell -/
theorem gridded_clamped_outside (x0 x1 y0 y1 x y : Rat) :
    bilinearWeights x0 x1 y0 y1 x y = bilinearWeights x0 x1 y0 y1 (clipR x x0 x1) (clipR y y0 y1) := by
  simp only [bilinearWeights_eq, frac1, clipR_idem]

/-- a single-row/column grid (zero-width cell) still gives weights that sum to one and are finite -/
theorem degenerate_cell_weights (x0 y0 y1 x y : Rat) (hy : y0 < y1) :
    let w := bilinearWeights x0 x0 y0 y1 x y
    w.1 + w.2.1 + w.2.2.1 + w.2.2.2 = 1 ∧ w.2.1 = 0 ∧ w.2.2.2 = 0 := by
  simp only [bilinearWeights_eq, frac1, if_true]
  refine ⟨by ring, by ring, by ring⟩

-- non-vacuity
example : bilinearWeights 0 10 0 20 (5/2) 5 = (9/16, 3/16, 3/16, 1/16) := by decide +kernel
example : bounds1 [0, 10, 20] 12 = (10, 20) ∧ bounds1 [0, 10, 20] (-3) = (0, 10) ∧ bounds1 [0, 10, 20] 99 = (10, 20) := by
  decide +kernel

end PhotVerif.C13
