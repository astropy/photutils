/-
  C17 — centroid functions locate symmetric sources exactly and act per source.
-/
import PhotVerif.Model.Centroid
import Mathlib.Algebra.BigOperators.Ring.List
import Mathlib.Tactic.Ring
import PhotVerif.Gen.ForwardTable

namespace PhotVerif.C17
open PhotVerif.Model PhotVerif.Model.Centroid PhotVerif.Gen.CentroidTable

theorem sumR_smul (k : Rat) (l : List Nat) (f : Nat → Rat) : sumR (l.map fun p => k * f p) = k * sumR (l.map f) := by
  rw [sumR, sumR, ← List.sum_eq_foldl, ← List.sum_eq_foldl, List.sum_map_mul_left]

/-- values stored under masked pixels are ignored -/
theorem com_mask_blind (ny nx : Nat) (d d' : Nat → V) (mask : Nat → Bool)
    (h : ∀ p, mask p = false → d' p = d p) : centroidCom ny nx d' mask = centroidCom ny nx d mask := by
  have hv : comVal d' mask = comVal d mask := funext fun p => by
    unfold comVal
    cases hm : mask p
    · rw [h p hm]
    · rfl
  unfold centroidCom
  rw [hv]

/-- positive (indeed any non-zero) rescaling of the data leaves the centre of mass unchanged -/
theorem com_scale (ny nx : Nat) (q : Nat → Rat) (mask : Nat → Bool) (k : Rat) (hk : k ≠ 0) :
    centroidCom ny nx (fun p => V.fin (k * q p)) mask = centroidCom ny nx (fun p => V.fin (q p)) mask := by
  have hv : comVal (fun p => V.fin (k * q p)) mask = fun p => k * comVal (fun p => V.fin (q p)) mask p := funext fun p => by
    unfold comVal
    split
    · rw [mul_zero]
    · rfl
  -- all three sums pick up the factor k, which cancels in the quotients and in the test for a zero total
  simp only [centroidCom, hv, mul_left_comm _ k, sumR_smul, mul_eq_zero, hk, false_or, mul_div_mul_left _ _ hk]

/-- a single non-zero pixel is its own centre of mass (sanity of the x/y convention: x = column, y = row) -/
example : centroidCom 3 4 (fun p => if p = 6 then V.fin 5 else V.fin 0) (fun _ => false) = some (2, 1) := by
  decide +kernel

theorem quadVertex_eq_some_iff (c10 c01 c11 c20 c02 : Rat) (ny nx : Nat) (x y : Rat) :
    quadVertex c10 c01 c11 c20 c02 ny nx = some (x, y) ↔
      ¬ (4 * c20 * c02 - c11 * c11 ≤ 0 ∨ (c20 > 0 ∧ c02 ≥ 0) ∨ (c20 ≥ 0 ∧ c02 > 0)) ∧
      (0 < x ∧ x < (nx : Rat) - 1 ∧ 0 < y ∧ y < (ny : Rat) - 1) ∧
      (c01 * c11 - 2 * c02 * c10) / (4 * c20 * c02 - c11 * c11) = x ∧
      (c10 * c11 - 2 * c20 * c01) / (4 * c20 * c02 - c11 * c11) = y := by
  simp only [quadVertex, Option.ite_none_left_eq_some, Option.ite_none_right_eq_some, Option.some.injEq, Prod.mk.injEq]
  constructor <;> rintro ⟨hc, hr, rfl, rfl⟩ <;> exact ⟨hc, hr, rfl, rfl⟩

theorem div_comb_eq_zero {a b c n m D : Rat} (hD : D ≠ 0) (h : a * D + b * n + c * m = 0) :
    a + b * (n / D) + c * (m / D) = 0 := by
  rw [← mul_div_assoc, ← mul_div_assoc, add_div' (b * n) a D hD, ← add_div, h, zero_div]

/-- for fitted coefficients of a quadratic with negative-definite Hessian the returned point is the vertex
    (the unique stationary point): both partial derivatives vanish there -/
theorem quadratic_vertex_exact (c10 c01 c11 c20 c02 : Rat) (ny nx : Nat) (x y : Rat)
    (h : quadVertex c10 c01 c11 c20 c02 ny nx = some (x, y)) :
    c10 + c11 * y + 2 * c20 * x = 0 ∧ c01 + c11 * x + 2 * c02 * y = 0 ∧
    0 < 4 * c20 * c02 - c11 * c11 ∧ 0 < x ∧ x < (nx : Rat) - 1 ∧ 0 < y ∧ y < (ny : Rat) - 1 := by
  obtain ⟨hc, hr, rfl, rfl⟩ := (quadVertex_eq_some_iff ..).mp h
  have hdet : 0 < 4 * c20 * c02 - c11 * c11 := not_le.mp fun hh => hc (Or.inl hh)
  exact ⟨div_comb_eq_zero hdet.ne' (by ring), div_comb_eq_zero hdet.ne' (by ring), hdet, hr⟩

/-- conversely: whenever a strict interior maximum exists the rule returns it, never NaN -/
theorem quadratic_vertex_found (c10 c01 c11 c20 c02 : Rat) (ny nx : Nat)
    (hdet : 0 < 4 * c20 * c02 - c11 * c11) (h20 : c20 < 0) (h02 : c02 < 0)
    (hx : 0 < (c01 * c11 - 2 * c02 * c10) / (4 * c20 * c02 - c11 * c11) ∧
          (c01 * c11 - 2 * c02 * c10) / (4 * c20 * c02 - c11 * c11) < (nx : Rat) - 1)
    (hy : 0 < (c10 * c11 - 2 * c20 * c01) / (4 * c20 * c02 - c11 * c11) ∧
          (c10 * c11 - 2 * c20 * c01) / (4 * c20 * c02 - c11 * c11) < (ny : Rat) - 1) :
    quadVertex c10 c01 c11 c20 c02 ny nx =
      some ((c01 * c11 - 2 * c02 * c10) / (4 * c20 * c02 - c11 * c11),
            (c10 * c11 - 2 * c20 * c01) / (4 * c20 * c02 - c11 * c11)) :=
  (quadVertex_eq_some_iff ..).mpr
    ⟨by rintro (h | h | h); exacts [h.not_gt hdet, lt_asymm h.1 h20, h.1.not_gt h20], ⟨hx.1, hx.2, hy⟩, rfl, rfl⟩

theorem foldl_append_fst {α β γ : Type} (g : α → β) (k : List β × γ → α → γ) (os : List α) (a : List β × γ) :
    (os.foldl (fun a o => (a.1 ++ [g o], k a o)) a).1 = a.1 ++ os.map g := by
  induction os generalizing a with
  | nil => rw [List.foldl_nil, List.map_nil, List.append_nil]
  | cons o os ih => rw [List.foldl_cons, ih, List.map_cons, List.append_assoc, List.singleton_append]

/-- for the loop skeleton extracted from the source (keywords re-derived from the caller's keywords for
    every source), the result for each position is exactly the centroid function applied to that position's
    cut-out with keywords derived from the caller's, independent of the other positions and of their order -/
theorem centroid_sources_per_source {β : Type} (f : (Int × Int) → Kw → β) (origins : List (Int × Int)) :
    centroidSources f origins = origins.map fun o => f o (sourceKw {} o) := by
  have hc : (outerKwargsMutatedInLoop || !kwargsFreshPerSource) = false := rfl
  simp only [centroidSources, hc, Bool.false_eq_true, if_false]
  exact foldl_append_fst (fun o => f o (sourceKw {} o)) (fun _ o => sourceKw {} o) origins ([], {})

theorem centroid_sources_perm {β : Type} (f : (Int × Int) → Kw → β) (o1 o2 : List (Int × Int)) (h : o1.Perm o2) :
    (centroidSources f o1).Perm (centroidSources f o2) := by
  rw [centroid_sources_per_source, centroid_sources_per_source]; exact h.map _

/-- both re-basing additions (x and y) are present in the loop -/
theorem both_origins_added : originAdditions = 2 := by decide

/-- TABLE OBLIGATION (regenerated from `centroid_quadratic`): a supplied start position becomes a pixel through `py2intround` only
    (modelled by `Centroid.py2intround`, ties away from zero; its translation covariance on pixel coordinates is `C03.py2intround_translate`;
    seed C17-r10 used Python's half-to-even `round`) -/
theorem quad_start_rounding : quadStartUsesPy2intround = true := by decide

-- the documented rounding at exact half pixels: 0.5 → 1, 2.5 → 3, 4.5 → 5 (half-to-even would give 0, 2, 4)
example : py2intround (1 / 2) = 1 ∧ py2intround (5 / 2) = 3 ∧ py2intround (9 / 2) = 5 ∧ py2intround (-1 / 2) = -1 := by decide +kernel

/-- `py2intround` rounds half away from zero -/
example : py2intround (5/2) = 3 ∧ py2intround (-5/2) = -3 ∧ py2intround (7/4) = 2 := by decide +kernel

/-- TABLE OBLIGATION: see `Gen/ForwardTable.lean` - every delegating call in these modules passes on each value the caller holds
    under the callee's own parameter name (seed C14-r6 dropped `footprint` from the centroid refinement of `find_peaks`) -/
theorem no_dropped_arguments : Gen.ForwardTable.droppedIn Gen.ForwardTable.scopeC17 =
    -- the one intended exception: `centroid_1dg` has already folded `mask` into the MaskedArray whose marginals it hands over
    [("centroids/gaussian.py", "centroid_1dg", "_gaussian1d_moments", "mask")] := by decide +kernel

end PhotVerif.C17
