/-
  C19 — radial profiles and curves of growth are consistent with aperture photometry.
  Curve-of-growth samples ARE aperture sums (C02 model); here: the difference-quotient laws,
  the constant-image law, monotonicity of counting weights and of the curve of growth, and the
  monotone-prefix rule of calc_radius_at_ee.  Normalisation is C09 (profile_history_inv, unnormalize_restores).
-/
import PhotVerif.Model.Profile
import PhotVerif.Model.ApSum
import PhotVerif.Props.C02
import PhotVerif.Props.C09
import Mathlib.Algebra.Order.BigOperators.Group.List
import PhotVerif.Gen.ForwardTable

namespace PhotVerif.C19
open PhotVerif.Model.Profile PhotVerif.Model

theorem diff_eq_zipWith : ∀ l : List Rat, diff l = List.zipWith (fun a b => b - a) l l.tail
  | [] => rfl
  | [_] => rfl
  | a :: b :: rest => by rw [diff, diff_eq_zipWith (b :: rest)]; rfl

theorem diff_length (l : List Rat) : (diff l).length = l.length - 1 := by
  rw [diff_eq_zipWith, List.length_zipWith, List.length_tail]; omega

theorem diff_getElem (l : List Rat) (i : Nat) (h : i + 1 < l.length) :
    (diff l)[i]'(by rw [diff_length]; omega) = l[i + 1] - l[i] := by
  simp only [diff_eq_zipWith, List.getElem_zipWith, List.getElem_tail]

theorem zipWith_diff_getElem? {β : Type} {g : Rat → Rat → β} {u v : List Rat} {i : Nat}
    (hu : i + 1 < u.length) (hv : i + 1 < v.length) :
    (List.zipWith g (diff u) (diff v))[i]? =
      some (g (u[i + 1] - u[i]'(Nat.lt_of_succ_lt hu)) (v[i + 1] - v[i]'(Nat.lt_of_succ_lt hv))) := by
  rw [List.getElem?_eq_getElem (by simp only [List.length_zipWith, diff_length]; omega), List.getElem_zipWith,
    diff_getElem u i hu, diff_getElem v i hv]

/-- a constant image gives that constant in every bin: if every aperture sum is `c · area`
    then `diff(flux)/diff(area) = c` wherever the bin has non-zero area -/
theorem constant_image_constant_profile (c : Rat) (area : List Rat) (i : Nat)
    (h : i + 1 < area.length) (hne : area[i + 1] - area[i] ≠ 0) :
    (radialProfile (area.map (c * ·)) area)[i]? = some (some c) := by
  rw [radialProfile, zipWith_diff_getElem? (by simpa using h) h, if_neg hne, List.getElem_map,
    List.getElem_map, ← mul_sub, mul_div_cancel_right₀ _ hne]

/-- errors propagate in quadrature: err² of bin i is (E²[i+1] − E²[i]) / ΔA² -/
theorem radial_error_quadrature (err2 area : List Rat) (i : Nat) (h1 : i + 1 < err2.length)
    (h2 : i + 1 < area.length) (hne : area[i + 1] - area[i] ≠ 0) :
    (radialErr2 err2 area)[i]? =
      some (some ((err2[i + 1] - err2[i]) / ((area[i + 1] - area[i]) * (area[i + 1] - area[i])))) := by
  rw [radialErr2, zipWith_diff_getElem? h1 h2, if_neg hne]

/-- weighted sums are monotone in the weights for non-negative data: with pixel-wise
    `w₁ ≤ w₂` the aperture sum can only grow — hence non-negative data give a non-decreasing curve of growth -/
theorem wsum_mono (px : List (Int × Int)) (w1 w2 : Int → Int → Rat) (d : Int → Int → Rat)
    (hw : ∀ p ∈ px, w1 p.1 p.2 ≤ w2 p.1 p.2) (hd : ∀ p ∈ px, 0 ≤ d p.1 p.2) :
    (px.map fun p => w1 p.1 p.2 * d p.1 p.2).sum ≤ (px.map fun p => w2 p.1 p.2 * d p.1 p.2).sum :=
  List.sum_le_sum fun p hp => mul_le_mul_of_nonneg_right (hw p hp) (hd p hp)

/-- counting weights are monotone in the shape: a larger circle contains every sub-pixel centre of a smaller one -/
theorem countP_mono {α : Type} (l : List α) (p q : α → Bool) (h : ∀ a ∈ l, p a = true → q a = true) :
    l.countP p ≤ l.countP q :=
  List.countP_mono_left h

/-- the kept samples are strictly increasing … -/
theorem monoPrefix_chain (p : List Rat) :
    ∀ i, i + 1 < monoPrefixLen p → ∀ (h : i + 1 < p.length), p[i] < p[i + 1] := by
  fun_induction monoPrefixLen p with
  | case2 a b rest hba ih =>
    intro i hi h
    cases i with
    | zero => exact lt_of_not_ge hba
    | succ i => exact ih i (by omega) (by simpa using h)
  | _ => intro i hi; omega

/-- the prefix is everything, or it ends at the first descent `p[m+1] ≤ p[m]` and keeps sample `m` -/
theorem monoPrefix_descent (p : List Rat) :
    monoPrefixLen p = p.length ∨
    ∃ (m : Nat) (h : m + 1 < p.length), monoPrefixLen p = m + 1 ∧ p[m + 1] ≤ p[m]'(Nat.lt_of_succ_lt h) := by
  fun_induction monoPrefixLen p with
  | case1 a b rest hba => exact .inr ⟨0, by simp, rfl, hba⟩
  | case2 a b rest hba ih =>
    rcases ih with h | ⟨m, h, e, hle⟩
    · exact .inl (by simp only [h, List.length_cons]; omega)
    · exact .inr ⟨m + 1, by simpa using h, by omega, hle⟩
  | _ => exact .inl rfl

/-- … and the prefix is maximal: it is everything, or the next sample does not increase.
    In particular the last strictly increasing sample IS kept (index `monoPrefixLen - 1`). -/
theorem monoPrefix_maximal (p : List Rat) :
    monoPrefixLen p = p.length ∨
    ∃ (h : monoPrefixLen p < p.length) (h0 : 0 < monoPrefixLen p),
      p[monoPrefixLen p] ≤ p[monoPrefixLen p - 1] := by
  rcases monoPrefix_descent p with h | ⟨m, h, e, hle⟩
  · exact .inl h
  · exact .inr ⟨by omega, by omega, by simpa only [e, Nat.add_sub_cancel] using hle⟩

theorem monoPrefixLen_le (p : List Rat) : monoPrefixLen p ≤ p.length := by
  rcases monoPrefix_maximal p with h | ⟨h, _⟩ <;> exact h.le

-- non-vacuity: 1 < 3 < 6, then 6 ≥ 5: three samples are kept (the old code kept two)
example : monoPrefix [1, 3, 6, 5, 9] = [1, 3, 6] := by decide +kernel

/-- TABLE OBLIGATION: in the modules of this property, every call that delegates to another photutils function, method or
    constructor passes on each value the caller holds under the callee's own parameter name (its own parameters, `self.<name>`
    attributes set in `__init__`) - dropped `subpixels`, `mask`, `connectivity`, `include_localbkg` ... keywords were a recurring
    kind of seeded change -/
theorem no_dropped_arguments : Gen.ForwardTable.droppedIn Gen.ForwardTable.scopeC19 = [] := by decide +kernel

end PhotVerif.C19
