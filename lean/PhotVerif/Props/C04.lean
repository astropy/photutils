/-
  C04 — detect_sources is exact connected-component labelling.
  The executable model (Model/CCL.lean) is proved to compute, for every image shape,
  foreground set and connectivity, the partition into 4- or 8-connected components, named
  by minimum raster index, pruned by size and numbered 1..N in raster order.
-/
import PhotVerif.Proofs.CCLTheory
import PhotVerif.Proofs.Grid
import Mathlib.Data.List.Nodup
import PhotVerif.Gen.ForwardTable

namespace PhotVerif.C04
open PhotVerif.Model.CCL PhotVerif.CCLTheory

theorem offsets_neg (conn8 : Bool) (d : Int × Int) (h : d ∈ offsets conn8) :
    (-d.1, -d.2) ∈ offsets conn8 := by
  revert d; cases conn8 <;> decide

theorem mem_nbrs (ny nx : Nat) (conn8 : Bool) (fg : Nat → Bool) (p q : Nat) :
    q ∈ nbrs ny nx conn8 fg p ↔ ∃ d ∈ offsets conn8,
      0 ≤ ((p / nx : Nat) : Int) + d.1 ∧ ((p / nx : Nat) : Int) + d.1 < ny ∧
      0 ≤ ((p % nx : Nat) : Int) + d.2 ∧ ((p % nx : Nat) : Int) + d.2 < nx ∧
      q = (((p / nx : Nat) : Int) + d.1).toNat * nx + (((p % nx : Nat) : Int) + d.2).toNat ∧
      fg q = true := by
  simp only [nbrs, List.mem_filterMap, Option.ite_none_right_eq_some, Option.some.injEq]
  constructor
  · rintro ⟨d, hd, ⟨h1, h2, h3, h4, h5⟩, rfl⟩
    exact ⟨d, hd, h1, h2, h3, h4, rfl, h5⟩
  · rintro ⟨d, hd, h1, h2, h3, h4, rfl, h5⟩
    exact ⟨d, hd, ⟨h1, h2, h3, h4, h5⟩, rfl⟩

/-- the grid graph of an `ny × nx` image with foreground `fg` -/
def gridGraph (ny nx : Nat) (conn8 : Bool) (fg : Nat → Bool) : Graph where
  n := ny * nx
  fg := fg
  nbrs := nbrs ny nx conn8 fg
  nbrs_fg := by
    intro p q hq
    rw [mem_nbrs] at hq
    obtain ⟨d, _, h1, h2, h3, h4, rfl, h6⟩ := hq
    refine ⟨h6, idx_lt ny nx _ _ (by omega) (by omega)⟩
  nbrs_symm := by
    intro p q hfg hp hq
    rw [mem_nbrs] at hq
    obtain ⟨d, hd, h1, h2, h3, h4, hqe, h6⟩ := hq
    have hnx : 0 < nx := by
      rcases Nat.eq_zero_or_pos nx with h | h
      · subst h; simp at hp
      · exact h
    have hpy : p / nx < ny := Nat.div_lt_of_lt_mul (by rw [Nat.mul_comm]; exact hp)
    have hpx : p % nx < nx := Nat.mod_lt _ hnx
    have hdm : p / nx * nx + p % nx = p := Nat.div_add_mod' p nx
    generalize p / nx = py at *
    generalize p % nx = px at *
    have hx : (((px : Nat) : Int) + d.2).toNat < nx := by omega
    have hqd : q / nx = (((py : Nat) : Int) + d.1).toNat := by rw [hqe]; exact idx_div nx _ _ hx
    have hqm : q % nx = (((px : Nat) : Int) + d.2).toNat := by rw [hqe]; exact idx_mod nx _ _ hx
    rw [mem_nbrs]
    refine ⟨(-d.1, -d.2), offsets_neg conn8 d hd, ?_, ?_, ?_, ?_, ?_, hfg⟩
    · rw [hqd]; simp only; omega
    · rw [hqd]; simp only; omega
    · rw [hqm]; simp only; omega
    · rw [hqm]; simp only; omega
    · rw [hqd, hqm]
      simp only
      have e1 : ((((((py : Nat) : Int) + d.1).toNat : Nat) : Int) + -d.1).toNat = py := by omega
      have e2 : ((((((px : Nat) : Int) + d.2).toNat : Nat) : Int) + -d.2).toNat = px := by omega
      rw [e1, e2]
      exact hdm.symm

/-- the table computed by `components` is a sound fixpoint of min-propagation -/
theorem components_sound_fix (ny nx : Nat) (conn8 : Bool) (fg : Nat → Bool) :
    let G := gridGraph ny nx conn8 fg
    let v := components ny nx conn8 fg
    v.size = ny * nx ∧ Sound G (F v) ∧ IsFix G (F v) :=
  run_range_spec (gridGraph ny nx conn8 fg)

/-- two foreground pixels get the same value iff they are connected through
    foreground 4- or 8-neighbours; the value is the smallest raster index of the component. -/
theorem components_partition (ny nx : Nat) (conn8 : Bool) (fg : Nat → Bool) (p q : Nat)
    (hp : p < ny * nx) (hq : q < ny * nx) (hfp : fg p = true) (hfq : fg q = true) :
    let G := gridGraph ny nx conn8 fg
    let v := components ny nx conn8 fg
    (F v p = F v q ↔ Reach G p q) ∧ Reach G p (F v p) ∧ (∀ m, Reach G p m → F v p ≤ m) := by
  intro G v
  obtain ⟨_, hs, hf⟩ := components_sound_fix ny nx conn8 fg
  exact ⟨fix_same_value_iff_connected G (F v) hf hs p q hp hq hfp hfq,
         fix_value_is_min G (F v) hf hs p hp hfp⟩

section labelling
variable (n : Nat) (fg : Nat → Bool) (v : Array Nat) (npix : Nat)

theorem mem_roots (r : Nat) : r ∈ roots n fg v ↔ r < n ∧ fg r = true ∧ F v r = r := by
  simp [roots]

theorem mem_kept (r : Nat) :
    r ∈ kept n fg v npix ↔ (r < n ∧ fg r = true ∧ F v r = r) ∧ npix ≤ compSize n fg v r := by
  simp [kept, mem_roots]

/-- at a sound fixpoint the value of a foreground vertex is a root: it survives pruning iff its component is large enough -/
theorem value_mem_kept_iff (G : Graph) (hf : IsFix G (F v)) (hs : Sound G (F v)) {a : Nat} (ha : a < G.n)
    (hfg : G.fg a = true) : F v a ∈ kept G.n G.fg v npix ↔ npix ≤ compSize G.n G.fg v (F v a) :=
  (mem_kept ..).trans (and_iff_right (fix_value_root G hf hs ha hfg))

theorem kept_nodup : (kept n fg v npix).Nodup :=
  (List.nodup_range.filter _).filter _

/-- surviving roots are listed in increasing raster order -/
theorem kept_sorted : (kept n fg v npix).Pairwise (· < ·) :=
  (List.pairwise_lt_range.filter _).filter _

theorem label_eq (k : List Nat) (p : Nat) :
    label fg v k p = if fg p = true ∧ F v p ∈ k then k.idxOf (F v p) + 1 else 0 := by
  simp only [label, Bool.and_eq_true, List.contains_iff_mem]

/-- a pixel is labelled (non-zero) iff it is foreground and its component has ≥ npixels pixels -/
theorem label_ne_zero_iff (p : Nat) :
    label fg v (kept n fg v npix) p ≠ 0 ↔ fg p = true ∧ F v p ∈ kept n fg v npix := by
  rw [label_eq]; split <;> simp [*]

/-- labelled pixels carry equal labels iff their component roots coincide -/
theorem label_eq_iff (p q : Nat) (hp : fg p = true) (hq : fg q = true)
    (hkp : F v p ∈ kept n fg v npix) (hkq : F v q ∈ kept n fg v npix) :
    label fg v (kept n fg v npix) p = label fg v (kept n fg v npix) q ↔ F v p = F v q := by
  rw [label_eq, label_eq, if_pos ⟨hp, hkp⟩, if_pos ⟨hq, hkq⟩, Nat.add_right_cancel_iff]
  exact List.idxOf_inj hkp

/-- labels never exceed the number N of surviving components … -/
theorem label_le (p : Nat) : label fg v (kept n fg v npix) p ≤ (kept n fg v npix).length := by
  rw [label_eq]; split
  · rename_i h; exact List.idxOf_lt_length_iff.mpr h.2
  · exact Nat.zero_le _

/-- … and every label 1..N is used: the i-th surviving root carries label i+1 (no gaps) -/
theorem label_root (i : Nat) (hi : i < (kept n fg v npix).length) :
    label fg v (kept n fg v npix) ((kept n fg v npix)[i]) = i + 1 := by
  have hm : (kept n fg v npix)[i] ∈ kept n fg v npix := List.getElem_mem hi
  have hr := (mem_kept n fg v npix _).mp hm
  rw [label_eq, hr.1.2.2, if_pos ⟨hr.1.2.1, hm⟩, (kept_nodup n fg v npix).idxOf_getElem]

/-- raster order: a smaller label belongs to the component whose first pixel comes first -/
theorem label_order (i j : Nat) (hij : i < j) (hj : j < (kept n fg v npix).length) :
    (kept n fg v npix)[i] < (kept n fg v npix)[j] :=
  List.pairwise_iff_getElem.mp (kept_sorted n fg v npix) i j (Nat.lt_trans hij hj) hj hij

end labelling

/-- the number a root's component is pruned by is its true pixel count -/
theorem compSize_counts_component (ny nx : Nat) (conn8 : Bool) (fg : Nat → Bool) (p q : Nat)
    (hp : p < ny * nx) (hq : q < ny * nx) (hfp : fg p = true) :
    let G := gridGraph ny nx conn8 fg
    let v := components ny nx conn8 fg
    ((fg q && F v q == F v p) = true ↔ fg q = true ∧ Reach G p q) := by
  intro G v
  simp only [Bool.and_eq_true, beq_iff_eq]
  refine and_congr_right fun hfq => ?_
  rw [eq_comm]; exact (components_partition ny nx conn8 fg p q hp hq hfp hfq).1

/-- `None` is returned iff no component reaches `npixels` -/
theorem detect_none_iff (ny nx : Nat) (conn8 : Bool) (fg : Nat → Bool) (npix : Nat) :
    detect ny nx conn8 fg npix = none ↔
      kept (ny * nx) fg (components ny nx conn8 fg) npix = [] := by
  simp only [detect, List.isEmpty_iff]
  split <;> simp [*]

/-- shape of a successful detection: the label image is `label` applied to every pixel, N = #survivors -/
theorem detect_some_spec (ny nx : Nat) (conn8 : Bool) (fg : Nat → Bool) (npix : Nat) (d : Detection)
    (h : detect ny nx conn8 fg npix = some d) :
    d.nlabels = (kept (ny * nx) fg (components ny nx conn8 fg) npix).length ∧
    d.data = (List.range (ny * nx)).map
      (label fg (components ny nx conn8 fg) (kept (ny * nx) fg (components ny nx conn8 fg) npix)) ∧
    d.areas = (kept (ny * nx) fg (components ny nx conn8 fg) npix).map
      (compSize (ny * nx) fg (components ny nx conn8 fg)) := by
  simp only [detect] at h
  split at h
  · cases h
  · cases h; exact ⟨rfl, rfl, rfl⟩

/-- NaN pixels and masked pixels are never foreground (hence never in a segment) -/
theorem foreground_excludes (data thr : Nat → PhotVerif.Model.V) (mask : Nat → Bool) (p : Nat)
    (h : mask p = true ∨ data p = .nan ∨ thr p = .nan) : foreground data thr mask p = false := by
  unfold foreground
  rcases h with h | h | h
  · simp [h]
  · rw [h]; cases thr p <;> simp [PhotVerif.Model.V.lt]
  · rw [h]; simp [PhotVerif.Model.V.lt]

/-- strictness: a pixel exactly at the threshold is not foreground -/
theorem foreground_strict (data thr : Nat → PhotVerif.Model.V) (mask : Nat → Bool) (p : Nat) (a : Rat)
    (hd : data p = .fin a) (ht : thr p = .fin a) : foreground data thr mask p = false := by
  unfold foreground
  rw [hd, ht]; simp [PhotVerif.Model.V.lt]

-- non-vacuity: 3×5 image, two 8-connected components + an isolated pixel, npixels = 2
example : (detect 3 5 true (fun p => [1,1,0,0,1, 0,0,0,1,1, 1,0,1,0,0].getD p 0 == 1) 2).map (·.data)
    = some [1,1,0,0,2, 0,0,0,2,2, 0,0,2,0,0] := by decide +kernel

/-- TABLE OBLIGATION: in the modules of this property, every call that delegates to another photutils function, method or
    constructor passes on each value the caller holds under the callee's own parameter name (its own parameters, `self.<name>`
    attributes set in `__init__`) - dropped `subpixels`, `mask`, `connectivity`, `include_localbkg` ... keywords were a recurring
    kind of seeded change -/
theorem no_dropped_arguments : Gen.ForwardTable.droppedIn Gen.ForwardTable.scopeC04 = [] := by decide +kernel

end PhotVerif.C04
