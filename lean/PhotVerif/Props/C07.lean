/-
  C07 — SourceCatalog measurements depend only on the pixels of their own segment.
  The model (Model/Catalog.lean) defines each column as an explicit formula over the pixel list of the
  label (that IS the defining formula of the property statement); here: locality, blindness to masked
  pixels, invariance under relabelling, row-order freedom and the all-masked rule.
-/
import PhotVerif.Model.Catalog
import Mathlib.Data.List.Perm.Basic

namespace PhotVerif.C07
open PhotVerif.Model PhotVerif.Model.Segm PhotVerif.Model.Catalog

/-- two inputs agree on the segment of label `l` -/
structure AgreeOn (I J : Inputs) (l : Nat) : Prop where
  nx : J.nx = I.nx
  pixels : segPix J l = segPix I l
  seg : ∀ p ∈ segPix I l, J.seg p = I.seg p
  data : ∀ p ∈ segPix I l, J.data p = I.data p
  conv : ∀ p ∈ segPix I l, J.conv p = I.conv p
  mask : ∀ p ∈ segPix I l, J.mask p = I.mask p
  err : (I.err.isSome = J.err.isSome) ∧ ∀ e e', I.err = some e → J.err = some e' → ∀ p ∈ segPix I l, e' p = e p
  bkg : (I.bkg.isSome = J.bkg.isSome) ∧ ∀ b b', I.bkg = some b → J.bkg = some b' → ∀ p ∈ segPix I l, b' p = b p

theorem sumOver_congr {f g : Nat → V} {ps : List Nat} (h : ∀ p ∈ ps, g p = f p) : sumOver g ps = sumOver f ps := by
  unfold sumOver
  congr 1
  exact List.map_congr_left fun p hp => by rw [h p hp]

/-- A row is a function of the row stride, the pixel list of its label, the mask on it, the data under its
    unmasked pixels and the moment values on it: row `m` of `J` and row `l` of `I` agree when these do. -/
theorem row_congr (I J : Inputs) (l m : Nat) (hnx : J.nx = I.nx) (hpix : segPix J m = segPix I l)
    (hmask : ∀ p ∈ segPix I l, J.mask p = I.mask p)
    (hdata : ∀ p ∈ segPix I l, I.mask p = false → J.data p = I.data p)
    (hmom : ∀ p ∈ segPix I l, momVal J m p = momVal I l p) :
    footprint J m = footprint I l ∧
    segmentFlux J m = segmentFlux I l ∧ area J m = area I l ∧ segmentArea J m = segmentArea I l ∧
    bbox J m = bbox I l ∧ minval J m = minval I l ∧ maxval J m = maxval I l ∧
    (∀ a b, rawMoment J m a b = rawMoment I l a b) ∧ centroid J m = centroid I l ∧
    secondMoments J m = secondMoments I l := by
  have hf : footprint J m = footprint I l := by
    unfold footprint
    rw [hpix]
    refine List.filter_congr fun p hp => ?_
    rw [hmask p hp]
    cases hm : I.mask p
    · rw [hdata p hp hm]
    · rfl
  have hd : ∀ p ∈ footprint I l, J.data p = I.data p := fun p hp => by
    have ⟨hp', hc⟩ := List.mem_filter.mp hp
    simp only [Bool.and_eq_true, Bool.not_eq_true'] at hc
    exact hdata p hp' hc.1
  have hbox : bbox J m = bbox I l := by unfold bbox; rw [hpix, hnx]
  have hext : ∀ better, argExt J m better = argExt I l better := fun better => by
    unfold argExt
    rw [hf, hnx]
    exact List.foldl_ext _ _ _ fun acc p hp => by rw [hd p hp]
  have hraw : ∀ a b, rawMoment J m a b = rawMoment I l a b := fun a b => by
    unfold rawMoment
    simp only [hbox, hpix, hnx]
    congr 1
    exact List.map_congr_left fun p hp => by rw [hmom p hp]
  refine ⟨hf, ?_, ?_, ?_, hbox, hext _, hext _, hraw, ?_, ?_⟩
  · unfold segmentFlux; simp only [hf]; rw [sumOver_congr hd]
  · unfold area; simp only [hf]
  · unfold segmentArea; rw [hpix]
  · unfold centroid; simp only [hraw, hbox]
  · unfold secondMoments; simp only [hraw]

/-- every modelled column of label `l` is the same for two inputs that agree on the
    pixels carrying `l` — whatever differs elsewhere in the image (other sources, background, other labels
    inside the bounding box). -/
theorem row_local (I J : Inputs) (l : Nat) (h : AgreeOn I J l) :
    segmentFlux J l = segmentFlux I l ∧ area J l = area I l ∧ segmentArea J l = segmentArea I l ∧
    bbox J l = bbox I l ∧ minval J l = minval I l ∧ maxval J l = maxval I l ∧
    (∀ a b, rawMoment J l a b = rawMoment I l a b) ∧ centroid J l = centroid I l ∧
    secondMoments J l = secondMoments I l :=
  (row_congr I J l l h.nx h.pixels h.mask (fun p hp _ => h.data p hp) fun p hp => by
    unfold momVal; rw [h.conv p hp, h.seg p hp, h.mask p hp]).2

/-- values stored under masked pixels of the segment never matter for flux, area or the extrema -/
theorem flux_blind_to_masked (I : Inputs) (d' : Nat → V) (l : Nat)
    (h : ∀ p ∈ segPix I l, I.mask p = false → d' p = I.data p) :
    footprint { I with data := d' } l = footprint I l ∧
    segmentFlux { I with data := d' } l = segmentFlux I l :=
  have hrow := row_congr I { I with data := d' } l l rfl rfl (fun _ _ => rfl) h fun _ _ => rfl
  ⟨hrow.1, hrow.2.1⟩

/-- a completely masked (or completely non-finite) source yields NaN, never a number -/
theorem all_masked_nan (I : Inputs) (l : Nat) (h : ∀ p ∈ segPix I l, I.mask p = true ∨ (I.data p).isFinite = false) :
    segmentFlux I l = none ∧ area I l = none ∧ minval I l = none ∧ maxval I l = none := by
  have hf : footprint I l = [] :=
    List.filter_eq_nil_iff.mpr fun p hp => by rcases h p hp with h | h <;> simp [h]
  simp [segmentFlux, area, minval, maxval, argExt, hf]

/-- renumbering labels with an injective map leaves every row unchanged (it only renames it) -/
theorem pix_relabel_inj (n : Nat) (seg : Nat → Nat) (f : Nat → Nat) (hf : Function.Injective f) (l : Nat) :
    pix n (fun p => f (seg p)) (f l) = pix n seg l :=
  List.filter_congr fun p _ => by simp only [beq_eq_decide, hf.eq_iff]

theorem row_relabel_invariant (I : Inputs) (f : Nat → Nat) (hf : Function.Injective f) (l : Nat) :
    let J : Inputs := { I with seg := fun p => f (I.seg p) }
    segmentFlux J (f l) = segmentFlux I l ∧ area J (f l) = area I l ∧ segmentArea J (f l) = segmentArea I l ∧
    bbox J (f l) = bbox I l ∧ centroid J (f l) = centroid I l ∧ minval J (f l) = minval I l := by
  intro J
  obtain ⟨_, hflux, harea, hseg, hbox, hmin, _, _, hcen, _⟩ :=
    row_congr I J l (f l) rfl (pix_relabel_inj I.n I.seg f hf l) (fun _ _ => rfl) (fun _ _ _ => rfl) fun p _ => by
      unfold momVal; simp only [J, hf.eq_iff]
  exact ⟨hflux, harea, hseg, hbox, hcen, hmin⟩

/-- the catalogue is a map over its labels: reordering the labels only reorders the rows -/
theorem rows_perm {α : Type} (row : Nat → α) (l1 l2 : List Nat) (h : l1.Perm l2) :
    (l1.map row).Perm (l2.map row) := h.map row

-- non-vacuity: 2×3 image, label 2 on three pixels one of which is masked and one NaN-free
example : segmentFlux ⟨2, 3, fun p => [2, 2, 0, 0, 2, 1].getD p 0,
    fun p => [V.fin 1, V.fin 5, V.fin 9, V.nan, V.fin 7, V.fin 3].getD p V.nan,
    fun p => [V.fin 1, V.fin 5, V.fin 9, V.nan, V.fin 7, V.fin 3].getD p V.nan,
    fun p => p == 1, none, none⟩ 2 = some 8 := by decide +kernel

end PhotVerif.C07
