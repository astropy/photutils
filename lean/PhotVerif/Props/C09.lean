/-
  C09 — results never depend on access order or on earlier calls.
  (a) Background2D: for the resource-lifetime table regenerated from background_2d.py, every history
      of reads of the lazily evaluated meshes succeeds, in each filter configuration.
  (b) Profile normalisation: for the rescale table regenerated from profiles/*.py, every cached array
      stays `raw / normalization_value` along every history; unnormalize restores the raw arrays.
  (c) Call-independence: for the attribute sets regenerated from psf/photometry.py, no call writes a
      configuration attribute, so configuration after any sequence of calls is the constructor's.
-/
import PhotVerif.Proofs.LazyTheory
import PhotVerif.Gen.Bkg2DTable
import PhotVerif.Model.ProfileNorm
import PhotVerif.Model.CallObj
import PhotVerif.Gen.SharedState
import Mathlib.Tactic.Linarith

namespace PhotVerif.C09
open PhotVerif.Model.Lazy PhotVerif.LazyTheory PhotVerif.Gen.Bkg2DTable

/-- instantiate the extracted event list for a configuration:
    `selective` = the selective-filter path is taken (filter_threshold ≥ min mesh value, filter_size ≠ (1,1));
    `thrNone` = filter_threshold is None -/
def inst (selective thrNone : Bool) (steps : List Step) : List Micro :=
  steps.filterMap fun s =>
    if s.onlySelective && !selective then none
    else some (if s.isDrop then Micro.drop s.res (if s.orThrNone && thrNone then [] else s.guardKeys)
               else Micro.use s.res)

def bkgRows (selective thrNone : Bool) : List (List Micro) :=
  [inst selective thrNone bkgMeshSteps, inst selective thrNone rmsMeshSteps]

/-- filter_threshold is None: any order of reading background_mesh / background_rms_mesh succeeds -/
theorem bkg2d_order_free_thrNone (hist : List Nat) :
    runHistory (tblOf (bkgRows false true)) hist fresh 0 = none :=
  checked_table_never_fails _ (by decide +kernel) (by decide +kernel) hist

/-- filter_threshold below the minimum mesh value (plain median filter): any order succeeds -/
theorem bkg2d_order_free_thrBelow (hist : List Nat) :
    runHistory (tblOf (bkgRows false false)) hist fresh 0 = none :=
  checked_table_never_fails _ (by decide +kernel) (by decide +kernel) hist

/-- filter_threshold at or above the minimum (selective filter, which needs `_bkg_stats` for both meshes):
    any order succeeds -/
theorem bkg2d_order_free_selective (hist : List Nat) :
    runHistory (tblOf (bkgRows true false)) hist fresh 0 = none :=
  checked_table_never_fails _ (by decide +kernel) (by decide +kernel) hist

-- the defect this replaced (kept as a regression witness): dropping `_bkg_stats` *before* the selective
-- filter uses it makes "rms mesh, then background mesh" fail at the second read
example : runHistory (tblOf [[Micro.use 0, Micro.drop 0 [1], Micro.use 0], [Micro.use 1, Micro.drop 1 [], Micro.use 0]])
    [1, 0] fresh 0 = some 1 := by decide +kernel

section profile
open PhotVerif.Model PhotVerif.Model.ProfileNorm PhotVerif.Gen.ProfileTable

/-- a cached array is `raw / normalization_value`; an array that would be created un-normalised is
    still uncached only while the normalisation is 1 -/
def KeyOK (norm : Rat) (old : Option Rat) (row : Row) : Prop :=
  match old with
  | some v => v * norm = 1
  | none => row.firstReadAppliesNorm = false → norm = 1

theorem readKey_ok {row : Row} {norm : Rat} (hn : norm ≠ 0) {old : Option Rat} (h : KeyOK norm old row) :
    KeyOK norm (ProfileNorm.readKey row norm old) row := by
  cases old with
  | some v => exact h
  | none =>
    show firstScale row norm * norm = 1
    unfold firstScale
    split
    · exact one_div_mul_cancel hn
    · rename_i ha
      rw [one_mul, h (by simpa using ha)]

theorem rowWf_spec (row : Row) (hw : rowWf row = true) :
    row.inNormalize = true ∧ row.inUnnormalize = true ∧
    (row.uncondNormalize = true → row.firstReadAppliesNorm = false) ∧
    (row.uncondNormalize = false → row.firstReadAppliesNorm = true) ∧
    (row.uncondUnnormalize = true → row.firstReadAppliesNorm = false) := by
  obtain ⟨a, b, c, d, e⟩ := row
  revert a b c d e
  decide +kernel

/-- what `normalize` (`factor = 1/n`, `norm' = norm·n`) and `unnormalize` (`factor = norm`, `norm' = 1`) have in common.
    `hu`: a first read is forced only on an array that is created un-normalised, where `KeyOK` gives `norm = 1`;
    `hn`: such an array is left uncached only if `norm' = 1` -/
theorem rescaleKey_ok {row : Row} {norm norm' normNow factor : Rat} {uncond : Bool} {old : Option Rat}
    (h : KeyOK norm old row) (hf : factor * norm' = norm)
    (hu : uncond = true → row.firstReadAppliesNorm = false)
    (hn : uncond = false → row.firstReadAppliesNorm = false → norm' = 1) :
    KeyOK norm' (rescaleKey normNow factor true uncond old row) row := by
  cases old with
  | some v =>
    show v * factor * norm' = 1
    rw [mul_assoc, hf]; exact h
  | none =>
    cases hu' : uncond with
    | false => exact hn hu'
    | true =>
      show firstScale row normNow * factor * norm' = 1
      rw [firstScale, if_neg (by simp [hu hu']), one_mul, hf, h (hu hu')]

/-- invariant of the whole state -/
structure PInv (tbl : List Row) (s : PState) : Prop where
  nz : s.norm ≠ 0
  len : s.sc.length = tbl.length
  keys : ∀ k (h1 : k < s.sc.length) (h2 : k < tbl.length), KeyOK s.norm s.sc[k] tbl[k]

theorem init_pinv (tbl : List Row) : PInv tbl (init tbl) :=
  ⟨one_ne_zero, List.length_replicate, fun k _ _ => by simp only [init, List.getElem_replicate]; exact fun _ => rfl⟩

theorem read_pinv {tbl : List Row} {s : PState} (h : PInv tbl s) (k : Nat) : PInv tbl (ProfileNorm.read tbl s k) := by
  unfold ProfileNorm.read
  split
  · exact h
  · rename_i row hk
    obtain ⟨hk2, rfl⟩ := List.getElem?_eq_some_iff.mp hk
    refine ⟨h.nz, by simp [h.len], fun j h1 h2 => ?_⟩
    have h1' : j < s.sc.length := by simpa using h1
    rw [List.getElem_set]
    split
    · rename_i e
      subst e
      rw [List.getD_eq_getElem?_getD, List.getElem?_eq_getElem h1']
      exact readKey_ok h.nz (h.keys _ h1' h2)
    · exact h.keys j h1' h2

theorem normalize_pinv {tbl : List Row} (hw : tbl.all rowWf = true) {s : PState} (h : PInv tbl s) (m : Rat) :
    PInv tbl (normalize tbl s m) := by
  have h1 := read_pinv h 0
  unfold normalize
  simp only
  split
  · exact h1
  · rename_i hn
    refine ⟨mul_ne_zero h1.nz hn, by simp [h1.len], fun k hk1 hk2 => ?_⟩
    obtain ⟨hin, _, hu, hu', _⟩ := rowWf_spec tbl[k] (List.all_eq_true.mp hw _ (List.getElem_mem hk2))
    rw [List.getElem_zipWith, hin]
    exact rescaleKey_ok (h1.keys k (h1.len ▸ hk2) hk2)
      (by rw [mul_comm, mul_assoc, mul_one_div_cancel hn, mul_one]) hu
      fun hf ha => by rw [hu' hf] at ha; cases ha

theorem unnormalize_pinv {tbl : List Row} (hw : tbl.all rowWf = true) {s : PState} (h : PInv tbl s) :
    PInv tbl (unnormalize tbl s) := by
  refine ⟨one_ne_zero, by simp [unnormalize, h.len], fun k hk1 hk2 => ?_⟩
  obtain ⟨_, hin, _, _, hu⟩ := rowWf_spec tbl[k] (List.all_eq_true.mp hw _ (List.getElem_mem hk2))
  simp only [unnormalize, List.getElem_zipWith, hin]
  exact rescaleKey_ok (h.keys k (h.len ▸ hk2) hk2) (mul_one _) hu fun _ _ => rfl

theorem step_pinv {tbl : List Row} (hw : tbl.all rowWf = true) {s : PState} (h : PInv tbl s) (o : Op) :
    PInv tbl (step tbl s o) := by
  cases o with
  | read k => exact read_pinv h k
  | normalize m => exact normalize_pinv hw h m
  | unnormalize => exact unnormalize_pinv hw h

/-- (b) for the table extracted from the source, along EVERY history of normalize(max|sum),
    unnormalize and first reads of profile / profile_error / data_profile, each cached array is
    `raw / normalization_value` (exact arithmetic) … -/
theorem profile_history_inv (ops : List Op) : PInv rows (run rows ops) :=
  List.foldlRecOn ops (step rows) (init_pinv rows) fun _ h o _ => step_pinv (by decide) h o

/-- … hence after `unnormalize` every cached array is exactly the raw array again, whenever it was first read -/
theorem unnormalize_restores (ops : List Op) (k : Nat) (v : Rat)
    (h : (run rows (ops ++ [Op.unnormalize])).sc[k]? = some (some v)) : v = 1 := by
  have hinv := profile_history_inv (ops ++ [Op.unnormalize])
  have hnorm : (run rows (ops ++ [Op.unnormalize])).norm = 1 := by
    unfold run; rw [List.foldl_append]; rfl
  obtain ⟨hk, hv⟩ := List.getElem?_eq_some_iff.mp h
  have := hinv.keys k hk (hinv.len ▸ hk)
  rwa [hv, hnorm, KeyOK, mul_one] at this

end profile

section calls
open PhotVerif.Model.CallObj PhotVerif.Gen.ConfigWrites

theorem call_config (row : ClassRow) (hw : wf row = true) (a : String) (ha : isConfig row a = true)
    (st : Store) (i : Nat) (ws : List String) : call row st i ws a = st a := by
  simp only [wf, isConfig, Bool.and_eq_true, Bool.not_eq_true', List.all_eq_true] at hw ha
  have hwr : row.writtenElsewhere.contains a = false :=
    Bool.eq_false_iff.mpr fun hc => by rw [hw.2 a (List.contains_iff_mem.mp hc)] at ha; cases ha.2
  simp only [call, hwr, ha.2, Bool.and_false, Bool.false_eq_true, if_false]

/-- if no attribute outside the reset set is written by a call, a configuration attribute keeps the
    constructor's value through any sequence of calls -/
theorem config_kept (row : ClassRow) (hw : wf row = true) (a : String) (ha : isConfig row a = true) :
    ∀ (wss : List (List String)) (st : Store) (i : Nat), calls row st wss i a = st a := by
  intro wss
  induction wss with
  | nil => intro st i; rfl
  | cons ws rest ih => intro st i; rw [calls, ih, call_config row hw a ha]

/-- PSFPhotometry: every configuration attribute (grouper, finder, fitter, fit_shape, psf_model, …) survives
    any sequence of calls -/
theorem psfphot_call_independent (a : String) (ha : isConfig rowPSFPhotometry a = true)
    (wss : List (List String)) (st : Store) : calls rowPSFPhotometry st wss 1 a = st a :=
  config_kept rowPSFPhotometry (by decide +kernel) a ha wss st 1

theorem iterative_psfphot_call_independent (a : String) (ha : isConfig rowIterativePSFPhotometry a = true)
    (wss : List (List String)) (st : Store) : calls rowIterativePSFPhotometry st wss 1 a = st a :=
  config_kept rowIterativePSFPhotometry (by decide +kernel) a ha wss st 1

-- non-vacuity: `grouper` is a configuration attribute of PSFPhotometry
example : isConfig rowPSFPhotometry "grouper" = true := by decide +kernel

end calls

/-- TABLE OBLIGATION: see `Gen/SharedState.lean` - no class attribute bound to a mutable literal in a class body is mutated in place
    by a method, and no module-level mutable literal is mutated (or rebound through `global`) by a function: nothing an object reports
    can then depend, through such state, on what OTHER objects of the library did before (seed C09-r8 cached the names of the lazy
    properties of whichever aperture class was touched first in a list shared by all aperture classes). -/
theorem no_shared_mutable_state :
    Gen.SharedState.classLevel = [] ∧ Gen.SharedState.moduleLevel = [] := by decide +kernel

end PhotVerif.C09
