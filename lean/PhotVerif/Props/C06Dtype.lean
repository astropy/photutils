/-
  C06: new labels never leave the range of the label array's dtype - the widening rule of
  `deblend_sources` (`_fit_label_dtype`, defect F43) makes room for the value and keeps every old value representable.
-/
import PhotVerif.Model.LabelDtype

namespace PhotVerif.C06
open PhotVerif.Model.LabelDtype

theorem minScalarType_holds (v : Nat) (d : IntDt) (h : minScalarType v = some d) : v ≤ d.max ∧ d.signed = false ∧ wellFormed d := by
  unfold minScalarType at h
  repeat' split at h
  all_goals cases h
  all_goals exact ⟨Nat.le_sub_one_of_lt ‹_›, rfl, by unfold wellFormed; decide⟩

/-- the number of value bits decides the range: a dtype with at least as many holds every value of the other -/
theorem max_le_max {a c : IntDt} (h : a.bits - a.signed.toNat ≤ c.bits - c.signed.toNat) : a.max ≤ c.max := by
  have e : ∀ d : IntDt, d.max = 2 ^ (d.bits - d.signed.toNat) - 1 := fun d => by
    unfold IntDt.max; cases d.signed <;> rfl
  rw [e, e]
  exact Nat.sub_le_sub_right (Nat.pow_le_pow_right Nat.two_pos h) 1

/-- promotion never shrinks the representable range of either operand -/
theorem promote_max (a b c : IntDt) (ha : wellFormed a) (hb : wellFormed b) (h : promote a b = some c) :
    a.max ≤ c.max ∧ b.max ≤ c.max := by
  obtain ⟨sa, ba⟩ := a
  obtain ⟨sb, bb⟩ := b
  suffices hv : ba - sa.toNat ≤ c.bits - c.signed.toNat ∧ bb - sb.toNat ≤ c.bits - c.signed.toNat from
    ⟨max_le_max hv.1, max_le_max hv.2⟩
  have hm : ba.max bb = max ba bb := rfl
  -- which dtype `c` is: by the signedness of the two and, if they differ, by whether the signed one is wider
  cases sa <;> cases sb <;>
    simp only [promote, hm, beq_self_eq_true, ↓reduceIte, Bool.false_eq_true, Bool.true_eq_false, beq_iff_eq] at h
  all_goals repeat' split at h
  all_goals cases h
  all_goals simp only [Bool.toNat_true, Bool.toNat_false]; omega

/-- whenever the widening rule yields an integer dtype, the value fits in it and so does every value of the old dtype;
    and nothing changes when the value already fits -/
theorem fitDtype_holds (d : IntDt) (hd : wellFormed d) (v : Nat) (c : IntDt) (h : fitDtype d v = some c) :
    v ≤ c.max ∧ d.max ≤ c.max := by
  unfold fitDtype at h
  split at h
  · cases hm : minScalarType v with
    | none => rw [hm] at h; cases h
    | some m =>
      rw [hm] at h
      simp only [Option.bind_some] at h
      obtain ⟨hv, _, hw⟩ := minScalarType_holds v m hm
      obtain ⟨h1, h2⟩ := promote_max d m c hd hw h
      exact ⟨Nat.le_trans hv h2, h1⟩
  · cases h; rename_i hle; exact ⟨by omega, Nat.le_refl _⟩

theorem fitDtype_unchanged (d : IntDt) (v : Nat) (h : v ≤ d.max) : fitDtype d v = some d := by
  unfold fitDtype; rw [if_neg (by omega)]

-- the cases of defect F43: uint8 with label 256, int8 with 128, int32 with 2^31
example : fitDtype ⟨false, 8⟩ 256 = some ⟨false, 16⟩ := by decide
example : fitDtype ⟨true, 8⟩ 128 = some ⟨true, 16⟩ := by decide
example : fitDtype ⟨true, 32⟩ (2 ^ 31) = some ⟨true, 64⟩ := by decide
example : fitDtype ⟨true, 64⟩ (2 ^ 63) = none := by decide

end PhotVerif.C06
