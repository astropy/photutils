/-
  C14 — peak and star finders return exactly what their contract selects.
-/
import PhotVerif.Model.Peaks
import PhotVerif.Proofs.Grid
import Mathlib.Tactic.Linarith
import Mathlib.Tactic.Positivity
import PhotVerif.Gen.ForwardTable
import PhotVerif.Gen.FinderTable
import Mathlib.Data.Prod.Lex

namespace PhotVerif.C14
open PhotVerif.Model PhotVerif.Model.Peaks

/-- `geK` is ≥ in the lexicographic order of the keys, which is linear -/
theorem geK_iff (a b : Int × Rat) : geK a b = true ↔ toLex b ≤ toLex a := by
  simp [geK, Prod.Lex.le_iff, eq_comm (a := a.1)]

/-- a pixel is returned (before the npeaks cut) iff it is in the image, equals the maximum of its
    padded footprint neighbourhood, is unmasked, outside the border strips and strictly above the threshold -/
theorem mem_candidates_iff (c : Cfg) (d : Nat → Int × Rat) (cval : Int × Rat) (thr : Nat → Int × Rat)
    (mask : Nat → Bool) (p : Nat) :
    p ∈ candidates c d cval thr mask ↔
      p < c.ny * c.nx ∧ isNbhdMax c d cval p = true ∧ mask p = false ∧ inBorder c p = false ∧
      gtK (d p) (thr p) = true := by
  unfold candidates
  simp only [List.mem_filter, List.mem_range, Bool.and_eq_true, Bool.not_eq_true']
  tauto

/-- candidates come in raster order, each pixel once -/
theorem candidates_sorted (c : Cfg) (d : Nat → Int × Rat) (cval : Int × Rat) (thr : Nat → Int × Rat)
    (mask : Nat → Bool) : (candidates c d cval thr mask).Pairwise (· < ·) := by
  unfold candidates; exact List.pairwise_lt_range.filter _

/-- "equals the neighbourhood maximum" unfolded: ≥ every footprint value and attained -/
theorem isNbhdMax_iff (c : Cfg) (d : Nat → Int × Rat) (cval : Int × Rat) (p : Nat) :
    isNbhdMax c d cval p = true ↔
      (∀ o ∈ c.offsets, geK (d p) (padded c d cval (((p / c.nx : Nat) : Int) + o.1) (((p % c.nx : Nat) : Int) + o.2)) = true) ∧
      (∃ o ∈ c.offsets, padded c d cval (((p / c.nx : Nat) : Int) + o.1) (((p % c.nx : Nat) : Int) + o.2) = d p) := by
  unfold isNbhdMax
  simp only [Bool.and_eq_true, List.all_eq_true, List.any_eq_true, beq_iff_eq]

/-- with the padding value not above any pixel (cval = min of the data), pixels outside the image never
    decide: a pixel whose footprint contains itself is a peak candidate iff no IN-IMAGE footprint
    neighbour exceeds it — also for negative maxima on the image edge -/
theorem edge_peaks_with_min_padding (c : Cfg) (d : Nat → Int × Rat) (cval : Int × Rat) (p : Nat)
    (hp : p < c.ny * c.nx) (hself : ((0 : Int), (0 : Int)) ∈ c.offsets)
    (hcval : geK (d p) cval = true) :
    isNbhdMax c d cval p = true ↔
      ∀ o ∈ c.offsets, inImage c (((p / c.nx : Nat) : Int) + o.1) (((p % c.nx : Nat) : Int) + o.2) = true →
        geK (d p) (d ((((p / c.nx : Nat) : Int) + o.1).toNat * c.nx + (((p % c.nx : Nat) : Int) + o.2).toNat)) = true := by
  rw [isNbhdMax_iff]
  -- the offset (0, 0) hits the pixel itself, which lies in the image
  have hselfval : padded c d cval (((p / c.nx : Nat) : Int) + 0) (((p % c.nx : Nat) : Int) + 0) = d p := by
    have hin : inImage c (((p / c.nx : Nat) : Int) + 0) (((p % c.nx : Nat) : Int) + 0) = true := by
      simp only [inImage, decide_eq_true_eq, Int.add_zero, Int.natCast_nonneg, Nat.cast_lt, true_and]
      exact row_col_lt hp
    rw [padded, if_pos hin, Int.add_zero, Int.add_zero, Int.toNat_natCast, Int.toNat_natCast, Nat.div_add_mod']
  refine ⟨fun ⟨hall, _⟩ o ho hin => ?_, fun h => ⟨fun o ho => ?_, (0, 0), hself, hselfval⟩⟩
  · simpa only [padded, if_pos hin] using hall o ho
  · unfold padded
    split_ifs with hin
    exacts [h o ho hin, hcval]

/-- a zero border width excludes nothing -/
theorem border_zero_noop (c : Cfg) (h1 : c.borderY = 0) (h2 : c.borderX = 0) (p : Nat) : inBorder c p = false := by
  unfold inBorder; simp [h1, h2]

theorem topN_sub {α : Type} (kf : α → Int × Rat) (n : Nat) (l : List α) : ∀ a ∈ topN kf n l, a ∈ l := by
  intro a ha
  unfold topN at ha
  exact List.mem_mergeSort.mp (List.mem_of_mem_take ha)

theorem topN_length {α : Type} (kf : α → Int × Rat) (n : Nat) (l : List α) : (topN kf n l).length = min n l.length := by
  unfold topN; simp

/-- every kept entry is at least as high as every dropped one, and the kept ones come in decreasing order -/
theorem topN_dominates {α : Type} (kf : α → Int × Rat) (n : Nat) (l : List α) :
    let s := l.mergeSort fun a b => geK (kf a) (kf b)
    (∀ a ∈ s.take n, ∀ b ∈ s.drop n, geK (kf a) (kf b) = true) ∧
    (topN kf n l).Pairwise (fun a b => geK (kf a) (kf b) = true) := by
  intro s
  have hs : s.Pairwise (fun a b => geK (kf a) (kf b) = true) :=
    List.pairwise_mergeSort (fun a b c => by simpa only [geK_iff] using fun h1 h2 => le_trans h2 h1)
      (fun a b => by simpa only [Bool.or_eq_true, geK_iff] using le_total _ _) l
  exact ⟨(List.pairwise_append.mp ((List.take_append_drop n s).symm ▸ hs)).2.2, hs.sublist (List.take_sublist n s)⟩

/-- `find_peaks` returns None iff there is no candidate -/
theorem findPeaks_none_iff (c : Cfg) (d : Nat → Int × Rat) (cval : Int × Rat) (thr : Nat → Int × Rat)
    (mask : Nat → Bool) (np : Option Nat) :
    findPeaks c d cval thr mask np = none ↔ candidates c d cval thr mask = [] := by
  simp only [findPeaks, List.isEmpty_iff]
  split_ifs with h
  · simp [h]
  · rcases np with _ | n
    · simp [h]
    · dsimp only; split_ifs <;> simp [h]

/-- every returned source passed the finiteness and bounds filters, and every source that passes is
    returned when `brightest` is not set; None iff nothing passes; ids are positions 1..N of the output -/
theorem selectStars_spec (rows : List StarRow) :
    (selectStars rows none = none ↔ ∀ i, i < rows.length → passes rows i = false) ∧
    (∀ idx, selectStars rows none = some idx → ∀ i, i ∈ idx ↔ (i < rows.length ∧ passes rows i = true)) := by
  simp only [selectStars, List.isEmpty_iff, List.filter_eq_nil_iff, List.mem_range, Bool.not_eq_true]
  split_ifs with h
  · exact ⟨iff_of_true rfl h, fun _ hidx => nomatch hidx⟩
  · refine ⟨iff_of_false (fun hn => nomatch hn) h, fun idx hidx i => ?_⟩
    cases hidx
    simp only [List.mem_filter, List.mem_range]

theorem passes_iff (rows : List StarRow) (i : Nat) :
    passes rows i = true ↔ ∃ r, rows[i]? = some r ∧ r.finite = true ∧ r.inBounds = true := by
  unfold passes
  cases rows[i]? <;> simp

/-- `brightest = N` keeps N sources none of which is fainter than a discarded one -/
theorem brightest_keeps_largest (rows : List StarRow) (n : Nat) (idx : List Nat)
    (h : selectStars rows (some n) = some idx) : idx.length ≤ n := by
  unfold selectStars at h
  simp only at h
  split at h
  · simp at h
  · simp only [Option.some.injEq] at h
    rw [← h, topN_length]; exact Nat.min_le_left _ _

-- non-vacuity: 1×5 row with a negative maximum at the left edge, padded with the minimum (-3): it IS a candidate
example : candidates ⟨1, 5, [(0, -1), (0, 0), (0, 1)], 0, 0⟩
    (fun p => ((0 : Int), ([-1, -2, -3, 4, 2] : List Rat).getD p 0)) (0, -3) (fun _ => (0, -10)) (fun _ => false)
    = [0, 3] := by decide +kernel

/-! ### the min_separation neighbourhood of the star finders (defect F50: it was off-centre for non-integer separations) -/

theorem int_le_floor_of_sq (sep : Rat) (hs : 0 ≤ sep) (d e : Int) (h : ((d * d + e * e : Int) : Rat) ≤ sep * sep) :
    -sep.floor ≤ d ∧ d ≤ sep.floor := by
  have hd : |(d : Rat)| ≤ sep := by
    rw [← abs_of_nonneg hs, abs_le_iff_mul_self_le]
    exact le_trans (by exact_mod_cast le_add_of_nonneg_right (mul_self_nonneg e)) h
  obtain ⟨h1, h2⟩ := abs_le.mp hd
  have h1' : ((-d : Int) : Rat) ≤ sep := by push_cast; linarith
  exact ⟨by have := Rat.le_floor_iff.mpr h1'; omega, Rat.le_floor_iff.mpr h2⟩

theorem mem_sepOffsets (sep : Rat) (hs : 0 ≤ sep) (dy dx : Int) :
    (dy, dx) ∈ sepOffsets sep ↔ ((dy * dy + dx * dx : Int) : Rat) ≤ sep * sep := by
  unfold sepOffsets
  simp only [List.mem_filter, List.mem_flatMap, List.mem_map, List.mem_range, decide_eq_true_eq, Prod.mk.injEq]
  -- a pair inside the disk is in the square grid `-n .. n` (n = floor sep) it is filtered from
  refine and_iff_right_of_imp fun h => ?_
  have hfl : (0 : Int) ≤ sep.floor := Rat.le_floor_iff.mpr (by simpa using hs)
  obtain ⟨hy1, hy2⟩ := int_le_floor_of_sq sep hs dy dx h
  obtain ⟨hx1, hx2⟩ := int_le_floor_of_sq sep hs dx dy (by rwa [add_comm])
  refine ⟨dy, ⟨(dy + sep.floor).toNat, ?_, ?_⟩, dx, ⟨(dx + sep.floor).toNat, ?_, ?_⟩, rfl, rfl⟩ <;> omega

/-- the neighbourhood is symmetric about the pixel (mirroring either axis, swapping the axes) -/
theorem sepOffsets_symmetric (sep : Rat) (hs : 0 ≤ sep) (dy dx : Int) :
    ((dy, dx) ∈ sepOffsets sep ↔ (-dy, dx) ∈ sepOffsets sep) ∧ ((dy, dx) ∈ sepOffsets sep ↔ (dy, -dx) ∈ sepOffsets sep) ∧
    ((dy, dx) ∈ sepOffsets sep ↔ (dx, dy) ∈ sepOffsets sep) := by
  simp only [mem_sepOffsets sep hs, neg_mul_neg, add_comm (dx * dx), and_self]

theorem sepOffsets_centre (sep : Rat) (hs : 0 ≤ sep) : (0, 0) ∈ sepOffsets sep := by
  rw [mem_sepOffsets sep hs]
  simpa using mul_nonneg hs hs

-- non-vacuity / regression for F50: min_separation = 4.2 reaches 4 pixels to either side, not 5
example : ((0 : Int), (4 : Int)) ∈ sepOffsets (21 / 5) ∧ ((0 : Int), (-4 : Int)) ∈ sepOffsets (21 / 5) ∧
    ((0 : Int), (5 : Int)) ∉ sepOffsets (21 / 5) := by decide +kernel

/-- a separation the caller gives is the separation in force - zero included (seed C14-r8 tested its truthiness) -/
theorem irafMinSep_given (s fwhm mf : Rat) (hs : 0 ≤ s) : irafMinSep (some s) fwhm mf = some s := by
  simp [irafMinSep, not_lt.mpr hs]

theorem irafMinSep_explicit_zero (fwhm mf : Rat) : irafMinSep (some 0) fwhm mf = some 0 :=
  irafMinSep_given 0 fwhm mf (le_refl 0)

/-- a negative separation is rejected -/
theorem irafMinSep_negative (s fwhm mf : Rat) (hs : s < 0) : irafMinSep (some s) fwhm mf = none := by
  simp [irafMinSep, hs]

/-- without one, the default is an integer of at least 2 pixels: the neighbourhood is then always a disk reaching at least two
    pixels to either side -/
theorem irafMinSep_default (fwhm mf : Rat) : ∃ n : Int, 2 ≤ n ∧ irafMinSep none fwhm mf = some (n : Rat) :=
  ⟨max 2 (fwhm * mf + 1 / 2).floor, le_max_left _ _, rfl⟩

/-- only a separation of exactly zero falls back to the kernel footprint; every positive one gives the centred disk -/
theorem neighbourhood_disk (sep : Rat) (h : 0 < sep) : neighbourhood sep = .disk (sepOffsets sep) := by
  simp [neighbourhood, ne_of_gt h]

theorem neighbourhood_zero : neighbourhood 0 = .kernelFootprint := by simp [neighbourhood]

-- non-vacuity: fwhm 2, minsep_fwhm 2.5 → 5; explicit 0 → kernel footprint
example : irafMinSep none 2 (5 / 2) = some 5 ∧ (irafMinSep (some 0) 2 (5 / 2)).map neighbourhood = some .kernelFootprint := by
  decide +kernel

/-- TABLE OBLIGATION: see `Gen/ForwardTable.lean` - every delegating call in these modules passes on each value the caller holds
    under the callee's own parameter name (seed C14-r6 dropped `footprint` from the centroid refinement of `find_peaks`) -/
theorem no_dropped_arguments : Gen.ForwardTable.droppedIn Gen.ForwardTable.scopeC14 = [] := by decide +kernel

section finite
open Gen.FinderTable

/-- TABLE OBLIGATION (see `Gen/FinderTable.lean`): a reported column is covered when the finite-value filter tests it; when it is `id` or a pixel count; or when a tested attribute is
    that column divided by the (positive, finite) kernel FWHM.  `mag` is the one exception: known finding F40. -/
def columnCovered (finder : String) (tested : List String) (c : String) : Bool :=
  tested.contains c || c == "id" || c == "mag"
  || integerColumns.any (fun l => l.1 == finder && l.2.1 == c)
  || links.any (fun l => l.1 == finder && l.2.1 == c && tested.contains l.2.2.1 && l.2.2.2 == "self." ++ c ++ " / self.kernel.fwhm")

theorem finite_filter_covers_reported_columns :
    rows.all (fun r => r.2.1.all (columnCovered r.1 r.2.2)) = true := by decide +kernel

/-- the only attributes exempted from the finite-value test, and when -/
theorem finite_filter_exemptions :
    exemptions.all (fun e => e ∈ [("DAOStarFinder", "self.threshold_eff == 0 and attr == 'flux'"),
                                  ("DAOStarFinder", "self.threshold_eff <= 0 and attr == 'daofind_mag'")]) = true := by decide +kernel

/-- non-vacuity: the three finders are in the table, each with a non-empty filter -/
theorem finite_filter_table_nonempty :
    rows.map (·.1) = ["DAOStarFinder", "IRAFStarFinder", "StarFinder"] ∧ rows.all (fun r => !r.2.2.isEmpty) = true := by decide +kernel

/-- the pre-F76 table (daofind_mag reported, not tested) does not satisfy the obligation -/
example : ["id", "flux", "daofind_mag"].all (columnCovered "DAOStarFinder" ["flux"]) = false := by decide +kernel
end finite

end PhotVerif.C14
