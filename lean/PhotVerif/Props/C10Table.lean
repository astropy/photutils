/-
  C10 — the analysis accepts every effect program regenerated from the current source, hence (by soundness)
  no execution of any of them writes to a caller-supplied buffer.  Acceptance is evaluated by the kernel, on the
  bit-matrix form of the analysis (`safeN`), which `safe_eq_safeN` puts in the place of `safe`.
-/
import PhotVerif.Props.C10
import PhotVerif.Gen.EffectsTable

namespace PhotVerif.C10
open PhotVerif.Model.Effects PhotVerif.Gen.EffectsTable

/-- every public function / class in scope is accepted by the may-alias analysis (evaluated by the kernel) -/
theorem all_extracted_safe : units.all (fun u => safe fuel u.k u.nv u.prog) = true := by
  simp only [safe_eq_safeN]
  decide +kernel

/-- for every extracted unit, on every execution path and any number of loop iterations / method calls,
    no buffer supplied by the caller is written -/
theorem extracted_units_do_not_write_inputs (u : Gen.EffectsTable.Unit) (hu : u ∈ units) (s' : CState)
    (hx : Exec u.prog (entryState u.k) s') : ∀ b ∈ s'.written, ¬ b < u.k :=
  safe_no_input_write fuel u.k u.nv u.prog (List.all_eq_true.1 all_extracted_safe u hu) s' hx

end PhotVerif.C10
