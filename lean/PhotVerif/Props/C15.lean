/-
  C15 — unit handling is all-or-nothing and order independent; the total-error formula.
  (Representation independence of the numerical entry points is decided on the implementation; see DESIGN.)
-/
import PhotVerif.Model.Units
import PhotVerif.Gen.FloatGuards
import Mathlib.Tactic.Positivity
import PhotVerif.Gen.ForwardTable
import PhotVerif.Gen.StatsUnits
import PhotVerif.Gen.SquareSites

namespace PhotVerif.C15
open PhotVerif PhotVerif.Model.Units

/-- the call succeeds with unit `u` iff at least one input is present and every present input has unit `u`
    (`u = none`: all unit-less) -/
theorem process_ok_iff (es : List Entry) (u : Option Nat) :
    processQuantities es = .ok u ↔ ((∃ e ∈ es, unitOf e = some u) ∧ ∀ e ∈ es, unitOf e = none ∨ unitOf e = some u) := by
  have hall : (∀ e ∈ es, unitOf e = none ∨ unitOf e = some u) ↔ ∀ v ∈ es.filterMap unitOf, v = u := by
    rw [List.forall_mem_filterMap]
    exact forall₂_congr fun e _ => by cases unitOf e <;> simp
  rw [hall, ← List.mem_filterMap]
  -- on the list of the units present: the first one is returned iff all agree with it
  unfold processQuantities
  generalize es.filterMap unitOf = l
  rcases l with _ | ⟨w, rest⟩
  · simp
  · simp only [List.all_eq_true, beq_iff_eq, List.forall_mem_cons]
    split_ifs with h
    · exact ⟨fun hw => by cases hw; exact ⟨List.mem_cons_self, rfl, h⟩, fun ⟨_, hw, _⟩ => hw ▸ rfl⟩
    · exact iff_of_false nofun fun ⟨_, hw, hr⟩ => h fun v hv => (hr v hv).trans hw.symm

/-- two present inputs whose `unit` attributes differ (one of them may have none) are rejected with ValueError -/
theorem disagreeing_rejected (es : List Entry) {e₁ e₂ : Entry} {a b : Option Nat} (h1 : e₁ ∈ es) (h2 : e₂ ∈ es)
    (ha : unitOf e₁ = some a) (hb : unitOf e₂ = some b) (hab : a ≠ b) : processQuantities es = .error .ValueError := by
  have ha' : a ∈ es.filterMap unitOf := List.mem_filterMap.mpr ⟨e₁, h1, ha⟩
  have hb' : b ∈ es.filterMap unitOf := List.mem_filterMap.mpr ⟨e₂, h2, hb⟩
  unfold processQuantities
  generalize es.filterMap unitOf = l at ha' hb'
  rcases l with _ | ⟨w, rest⟩
  · cases ha'
  · refine if_neg fun hall => ?_
    have hw : ∀ v ∈ w :: rest, v = w := List.forall_mem_cons.mpr ⟨rfl, by simpa using hall⟩
    exact hab ((hw a ha').trans (hw b hb').symm)

/-- mixing a unit-ful with a unit-less input is always rejected with ValueError -/
theorem mixing_rejected (es : List Entry) (k : Nat) (h1 : Entry.plain ∈ es) (h2 : Entry.unit k ∈ es) :
    processQuantities es = .error .ValueError :=
  disagreeing_rejected es h1 h2 rfl rfl nofun

/-- two different units are rejected as well -/
theorem different_units_rejected (es : List Entry) (j k : Nat) (hjk : j ≠ k) (h1 : Entry.unit j ∈ es) (h2 : Entry.unit k ∈ es) :
    ∀ u, processQuantities es ≠ .ok u := by
  rw [disagreeing_rejected es h1 h2 rfl rfl fun h => hjk (Option.some.inj h)]
  nofun

/-- the decision does not depend on the order of the inputs -/
theorem process_perm (es es' : List Entry) (h : es.Perm es') (u : Option Nat) :
    processQuantities es = .ok u ↔ processQuantities es' = .ok u := by
  simp only [process_ok_iff, h.mem_iff]

/-- numbers are returned unchanged whatever the unit -/
theorem stripped_payload (e : Entry) (p : List Rat) (h : e ≠ .absent) : stripped e p = some p := by
  cases e <;> simp_all [stripped]

/-! ### calc_total_error -/

/-- units: all three inputs or none; data and bkg_error share the unit, which is also the unit of the result -/
theorem total_error_unit_ok_iff (d b g : Option Nat) (c : Bool) (u : Option Nat) :
    totalErrorUnit d b g c = .ok u ↔
      ((d = none ∧ b = none ∧ g = none ∧ u = none) ∨ (d.isSome ∧ g.isSome ∧ d = b ∧ c = true ∧ u = d)) := by
  -- simp settles the six mixed cases (ValueError); left are "no unit anywhere" and "a unit everywhere"
  rcases d with _ | d <;> rcases b with _ | b <;> rcases g with _ | g <;> simp [totalErrorUnit]
  · exact eq_comm
  · by_cases hdb : d = b <;> cases c <;> simp [hdb, eq_comm]

theorem totalError2_ok_iff (d b g t : Rat) :
    totalError2 d b g = .ok t ↔ 0 ≤ g ∧ t = b * b + (if g ≠ 0 then max (d / g) 0 else 0) := by
  unfold totalError2
  by_cases hg : g < 0
  · rw [if_pos hg]
    exact iff_of_false nofun fun h => h.1.not_gt hg
  · rw [if_neg hg]
    exact ⟨fun h => by cases h; exact ⟨not_lt.mp hg, rfl⟩, fun h => h.2 ▸ rfl⟩

/-- value: at least the background error; exactly it where the data is non-positive or the gain is zero;
    never decreasing in the data -/
theorem total_error_bounds (d b g t : Rat) (h : totalError2 d b g = .ok t) :
    b * b ≤ t ∧ ((d ≤ 0 ∨ g = 0) → t = b * b) ∧ 0 ≤ g := by
  obtain ⟨hg, rfl⟩ := (totalError2_ok_iff d b g t).mp h
  refine ⟨le_add_of_nonneg_right ?_, fun h0 => add_eq_left.mpr ?_, hg⟩
  · split_ifs
    exacts [le_max_right _ _, le_rfl]
  · split_ifs with hne
    · exact max_eq_right (div_nonpos_of_nonpos_of_nonneg (h0.resolve_right hne) hg)
    · rfl

theorem total_error_mono (d d' b g t t' : Rat) (hd : d ≤ d') (h : totalError2 d b g = .ok t) (h' : totalError2 d' b g = .ok t') :
    t ≤ t' := by
  obtain ⟨hg, rfl⟩ := (totalError2_ok_iff d b g t).mp h
  obtain ⟨-, rfl⟩ := (totalError2_ok_iff d' b g t').mp h'
  split_ifs
  exacts [add_le_add_right (max_le_max (div_le_div_of_nonneg_right hd hg) le_rfl) _, le_rfl]

/-- a negative gain is rejected -/
theorem negative_gain_rejected (d b g : Rat) (h : g < 0) : totalError2 d b g = .error .ValueError :=
  if_pos h

/-! ### float conversion before in-place arithmetic (facts regenerated from the source each run) -/

theorem float_guards :
    Gen.FloatGuards.totalErrorSourceVarianceIsFloat = true ∧ Gen.FloatGuards.filterDataIntToFloat = true ∧
    Gen.FloatGuards.background2dNonFloatToFloat32 = true ∧ Gen.FloatGuards.catalogCutoutsFloat = true ∧
    Gen.FloatGuards.apertureStatsCutoutFloat = true ∧ Gen.FloatGuards.centroidSourcesFloat = true ∧
    Gen.FloatGuards.processQuantitiesSkipsNone = true ∧ Gen.FloatGuards.processQuantitiesRejectsMixed = true ∧
    Gen.FloatGuards.processQuantitiesStripsValue = true := by decide +kernel

-- non-vacuity
example : processQuantities [.absent, .unit 3, .unit 3] = .ok (some 3) := by decide
example : processQuantities [.plain, .unit 3] = .error .ValueError := by decide
example : totalError2 8 3 2 = .ok 13 := by decide +kernel

/-- TABLE OBLIGATION: in the modules of this property, every call that delegates to another photutils function, method or
    constructor passes on each value the caller holds under the callee's own parameter name (its own parameters, `self.<name>`
    attributes set in `__init__`) - dropped `subpixels`, `mask`, `connectivity`, `include_localbkg` ... keywords were a recurring
    kind of seeded change -/
theorem no_dropped_arguments : Gen.ForwardTable.droppedIn Gen.ForwardTable.scopeC15 =
    -- the one intended exception: the 'center' masks are built with method='center', which ignores `subpixels`
    [("aperture/stats.py", "ApertureStats._aperture_masks_center", "to_mask", "subpixels")] := by decide +kernel

/-! ### units of the ApertureStats statistics (table regenerated from the source) -/

/-- TABLE OBLIGATION: the variance-like statistics (`var`, `biweight_midvariance`) ask `_calculate_stats` for the squared data unit, every
    other statistic for the data unit itself, and `_calculate_stats` attaches what it is asked for (seed C15-r8 ignored the argument) -/
theorem stats_units_table :
    (Gen.StatsUnits.rows.filter fun r => r.2 == 2).map (·.1) = ["var", "biweight_midvariance"] ∧
    (Gen.StatsUnits.rows.all fun r => r.2 == 1 || r.2 == 2) = true ∧
    Gen.StatsUnits.calculateStatsHonoursUnit = true := by decide +kernel

/-- the unit attached is consistent with how the statistic scales: a statistic of power p of data in unit u, re-expressed in a unit
    c times smaller (values c times larger), changes by c^p - so only `unit^p` keeps the physical quantity unchanged -/
theorem stat_unit_consistent (p : Nat) (c v : Rat) (hc : c ≠ 0) :
    (scalesWith p c * v) / c ^ p = v :=
  mul_div_cancel_left₀ v (pow_ne_zero p hc)

theorem statUnit_none (p : Nat) : statUnit none p = none := rfl
theorem statUnit_some (u p : Nat) : statUnit (some u) p = some (u, p) := rfl

/-- TABLE OBLIGATION: every place in the photometry / catalogue / centroid / total-error code that squares an error array the caller handed
    in does so on a float64 copy made in the same function - an integer error map squared in its own dtype wraps around (seeds C02-r8,
    C07-r11, C19-r11; defect F69 was the same mistake with a product).  The one site not cast locally receives float cut-outs from
    `_make_aperture_data` (`self._error[slc_lg].astype(float)`). -/
theorem error_squares_in_float :
    Gen.SquareSites.uncast = [("segmentation/catalog.py", "_aperture_photometry", "error")] ∧
    6 ≤ Gen.SquareSites.sites.length := by decide +kernel

/-- why the cast matters: in a w-bit unsigned dtype the square of x is x² mod 2^w, which differs from x² as soon as x ≥ 2^(w/2)
    (uint16: 300² = 90000 is stored as 24464) -/
theorem wrapped_square_differs (w x : Nat) (h : 2 ^ w ≤ x * x) : (x * x) % 2 ^ w ≠ x * x := by
  intro he
  have := Nat.mod_lt (x * x) (Nat.two_pow_pos w)
  omega

example : (300 * 300) % 2 ^ 16 = 24464 := by decide

end PhotVerif.C15
