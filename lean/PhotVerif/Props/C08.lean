/-
  C08 — indexing a catalogue commutes with evaluating its properties, and a slice is independent
  of its parent.
-/
import PhotVerif.Model.CatSlice
import Mathlib.Data.List.Basic

namespace PhotVerif.C08
open PhotVerif.Model.CatSlice PhotVerif.Gen.CatSliceTable

/-! ### positions are in range, so `sel` never reads a default -/

theorem normIdx_lt {n : Nat} {i : Int} {k : Nat} (h : normIdx n i = some k) : k < n := by
  unfold normIdx at h
  split_ifs at h <;> cases h <;> omega

theorem mem_of_mapM_eq_some {α β : Type} {f : α → Option β} {l : List α} {ks : List β} (h : l.mapM f = some ks)
    {k : β} (hk : k ∈ ks) : ∃ a, f a = some k := by
  induction l generalizing ks with
  | nil => cases h; cases hk
  | cons a l ih =>
    simp only [List.mapM_cons, Option.bind_eq_bind, Option.bind_eq_some_iff, Option.pure_def, Option.some.injEq] at h
    obtain ⟨b, hb, rest, hrest, rfl⟩ := h
    rcases List.mem_cons.mp hk with rfl | hk'
    · exact ⟨a, hb⟩
    · exact ih hrest hk'

theorem positions_lt {n : Nat} {idx : Index} {ps : List Nat} (h : positions n idx = some ps) {k : Nat} (hk : k ∈ ps) :
    k < n := by
  cases idx with
  | int i =>
    obtain ⟨j, hj, rfl⟩ := Option.map_eq_some_iff.mp h
    rw [List.mem_singleton.mp hk]; exact normIdx_lt hj
  | ints is => exact (mem_of_mapM_eq_some h hk).elim fun _ => normIdx_lt
  | slice a b st | mask m =>
    simp only [positions, Option.ite_none_left_eq_some, Option.some.injEq] at h
    rw [← h.2] at hk
    exact List.mem_range.mp (List.mem_filter.mp hk).1

theorem sel_map_any {α β : Type} [Inhabited α] [Inhabited β] (g : α → β) (idx : Index) (l : List α) :
    sel idx (l.map g) = (sel idx l).map (List.map g) := by
  unfold sel
  rw [List.length_map, Option.map_map]
  cases hp : positions l.length idx with
  | none => rfl
  | some ps =>
    simp only [Option.map_some, Function.comp, List.map_map, Option.some.injEq]
    refine List.map_congr_left fun k hk => ?_
    simp [List.getD_eq_getElem?_getD, List.getElem?_eq_getElem (positions_lt hp hk)]

/-- selecting positions commutes with mapping a per-source function -/
theorem sel_map {α β : Type} [Inhabited α] [Inhabited β] (g : α → β) (hd : g default = default)
    (idx : Index) (l : List α) :
    sel idx (l.map g) = (sel idx l).map (List.map g) :=
  sel_map_any g idx l

section coherence
variable {α : Type} (f : Nat → Nat → α) {c c' : Cat α}

/-- every cached value is what evaluating the property now would give -/
def Coherent (c : Cat α) : Prop :=
  ∀ q v, (q, v) ∈ c.cache → v = compute f q c.labels

theorem readProp_of_coherent (hc : Coherent f c) (p : Nat) : readProp f c p = c.labels.map (f p) := by
  unfold readProp
  cases hf : c.cache.find? (·.1 == p) with
  | none => rfl
  | some qv =>
    obtain ⟨q, v⟩ := qv
    have hq : q = p := by simpa using List.find?_some hf
    rw [← hq, hc q v (List.mem_of_find?_eq_some hf)]; rfl

variable [Inhabited α] {row : Row} {h h' : Heap} {idx : Index}

theorem getitem_some (hg : getitem row h c idx = some (c', h')) :
    sel idx c.labels = some c'.labels ∧
    c'.cache = c.cache.filterMap fun (q, v) => (sel idx v).map fun v' => (q, v') := by
  unfold getitem at hg
  split at hg
  · cases hg
  · rename_i labs hs
    split at hg <;> cases hg <;> exact ⟨hs, rfl⟩

theorem getitem_coherent (hc : Coherent f c) (hg : getitem row h c idx = some (c', h')) : Coherent f c' := by
  obtain ⟨hl, hcache⟩ := getitem_some hg
  intro q v' hm
  rw [hcache, List.mem_filterMap] at hm
  obtain ⟨⟨q0, v0⟩, hm0, hsel⟩ := hm
  obtain ⟨w, hw, rfl, rfl⟩ : ∃ w, sel idx v0 = some w ∧ q0 = q ∧ w = v' := by simpa using hsel
  rw [hc q0 v0 hm0, compute, sel_map_any, hl] at hw
  exact (Option.some.inj hw).symm

end coherence

/-- for every per-source property, every index form and whether or not the property
    was evaluated before indexing: `cat[idx].p == cat.p[idx]`. -/
theorem getitem_commutes {α : Type} [Inhabited α] (f : Nat → Nat → α) (row : Row) (h : Heap) (c : Cat α)
    (idx : Index) (p : Nat) (c' : Cat α) (h' : Heap)
    (hcache : ∀ q v, (q, v) ∈ c.cache → v = compute f q c.labels)
    (hg : getitem row h c idx = some (c', h')) :
    some (readProp f c' p) = sel idx (readProp f c p) := by
  rw [readProp_of_coherent f (getitem_coherent f hcache hg), readProp_of_coherent f hcache, sel_map_any,
    (getitem_some hg).1]
  rfl

/-- TABLE OBLIGATION: `__getitem__` gives the slice its own `_extra_properties` list (for the tables
    regenerated from the source), so the slice's address differs from every existing heap cell -/
theorem getitem_fresh_extras {α : Type} [Inhabited α] (h : Heap) (c : Cat α) (idx : Index) (c' : Cat α) (h' : Heap)
    (hg : getitem rowSourceCatalog h c idx = some (c', h')) (hc : c.extras < h.length) :
    c'.extras = h.length ∧ h'.length = h.length + 1 ∧ h'.getD c.extras [] = h.getD c.extras [] ∧
    h'.getD c'.extras [] = h.getD c.extras [] := by
  unfold getitem at hg
  split at hg
  · cases hg
  · rw [if_pos (by decide)] at hg
    cases hg
    refine ⟨rfl, List.length_append, ?_, by simp [List.getD_eq_getElem?_getD]⟩
    rw [List.getD_eq_getElem?_getD, List.getD_eq_getElem?_getD, List.getElem?_append_left hc]

theorem getD_set_ne (h : Heap) {a b : Nat} (x : List String) (hab : a ≠ b) : (h.set a x).getD b [] = h.getD b [] := by
  simp only [List.getD_eq_getElem?_getD, List.getElem?_set_ne hab]

/-- adding or removing an extra property on the slice never changes the parent's list,
    and vice versa -/
theorem slice_extras_independent {α : Type} [Inhabited α] (h : Heap) (c : Cat α) (idx : Index) (c' : Cat α) (h' : Heap)
    (hg : getitem rowSourceCatalog h c idx = some (c', h')) (hc : c.extras < h.length) (name : String) :
    (addExtra h' c'.extras name).getD c.extras [] = h.getD c.extras [] ∧
    (removeExtra h' c'.extras name).getD c.extras [] = h.getD c.extras [] ∧
    (addExtra h' c.extras name).getD c'.extras [] = h.getD c.extras [] ∧
    (removeExtra h' c.extras name).getD c'.extras [] = h.getD c.extras [] := by
  obtain ⟨he, _, hp, hch⟩ := getitem_fresh_extras h c idx c' h' hg hc
  have hne : c'.extras ≠ c.extras := by omega
  exact ⟨(getD_set_ne h' _ hne).trans hp, (getD_set_ne h' _ hne).trans hp,
    (getD_set_ne h' _ hne.symm).trans hch, (getD_set_ne h' _ hne.symm).trans hch⟩

/-- no attribute that `__getitem__` copies by reference is modified in place by any method (both classes) -/
theorem no_shared_mutable_attribute :
    rowSourceCatalog.sharedMutated = [] ∧ rowApertureStats.sharedMutated = [] := by decide +kernel

-- non-vacuity: 4 sources, a negative integer index and a boolean mask
example : sel (Index.int (-1)) [10, 20, 30, 40] = some [40] := by decide +kernel
example : sel (Index.mask [true, false, true, false]) [10, 20, 30, 40] = some [10, 30] := by decide +kernel

/-! ### get_label / get_labels / get_id / get_ids -/

theorem labelPositions_nil (labels : List Nat) : labelPositions labels [] = some [] := rfl

theorem labelPositions_cons (labels : List Nat) (l : Nat) (ls : List Nat) :
    labelPositions labels (l :: ls)
      = if labels.contains l then (labelPositions labels ls).map (labels.idxOf l :: ·) else none := rfl

theorem labelPositions_eq_some {labels ls ps : List Nat} :
    labelPositions labels ls = some ps ↔ (∀ l ∈ ls, l ∈ labels) ∧ ps = ls.map labels.idxOf := by
  induction ls generalizing ps with
  | nil => simp [labelPositions_nil, eq_comm]
  | cons x xs ih =>
    rw [labelPositions_cons, List.forall_mem_cons, List.map_cons]
    by_cases hx : x ∈ labels
    · simp only [List.contains_iff_mem, hx, if_true, true_and, Option.map_eq_some_iff, ih]
      exact ⟨fun ⟨qs, ⟨hall, hq⟩, hps⟩ => ⟨hall, hq ▸ hps.symm⟩, fun ⟨hall, hps⟩ => ⟨_, ⟨hall, rfl⟩, hps.symm⟩⟩
    · simp [hx]

/-- a label that the catalogue does not hold is refused (defect F45: it used to select another source) -/
theorem labelPositions_absent (labels ls : List Nat) (l : Nat) (hl : l ∈ ls) (ha : l ∉ labels) :
    labelPositions labels ls = none :=
  Option.eq_none_iff_forall_ne_some.mpr fun _ h => ha ((labelPositions_eq_some.mp h).1 l hl)

/-- when it succeeds, the sources returned carry exactly the requested labels, in the requested order -/
theorem labelPositions_sound (labels ls ps : List Nat) (h : labelPositions labels ls = some ps) :
    ps.map (fun k => labels.getD k 0) = ls ∧ ∀ k ∈ ps, k < labels.length := by
  obtain ⟨hall, rfl⟩ := labelPositions_eq_some.mp h
  have hlt : ∀ l ∈ ls, labels.idxOf l < labels.length := fun l hl => List.idxOf_lt_length_iff.mpr (hall l hl)
  refine ⟨?_, fun k hk => ?_⟩
  · rw [List.map_map]
    refine (List.map_congr_left fun l hl => ?_).trans (List.map_id ls)
    simp [List.getD_eq_getElem?_getD, List.getElem?_eq_getElem (hlt l hl)]
  · obtain ⟨l, hl, rfl⟩ := List.mem_map.mp hk
    exact hlt l hl

theorem ints_positions {n : Nat} {ps : List Nat} (h : ∀ k ∈ ps, k < n) :
    (ps.map Int.ofNat).mapM (normIdx n) = some ps := by
  induction ps with
  | nil => rfl
  | cons k ks ih =>
    have hk : (0 : Int) ≤ Int.ofNat k ∧ Int.ofNat k < (n : Int) :=
      ⟨Int.natCast_nonneg k, Int.ofNat_lt.mpr (h k List.mem_cons_self)⟩
    simp only [List.map_cons, List.mapM_cons, normIdx, if_pos hk, ih fun j hj => h j (List.mem_cons_of_mem _ hj)]
    rfl

/-- `get_labels` is the integer-list index form on those positions, so everything proved for `cat[idx]` (commutation with
    property evaluation, independence of the slice) applies to it -/
theorem labelPositions_is_ints (labels ls ps : List Nat) (h : labelPositions labels ls = some ps) :
    positions labels.length (.ints (ps.map Int.ofNat)) = some ps :=
  ints_positions (labelPositions_sound labels ls ps h).2

example : labelPositions [1, 2, 3, 10] [5] = none := by decide +kernel
example : labelPositions [1, 2, 3, 10] [10, 2] = some [3, 1] := by decide +kernel

end PhotVerif.C08
