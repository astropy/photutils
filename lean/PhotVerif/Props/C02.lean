/-
  C02 — aperture sums are mask-weighted sums over exactly the unmasked, positive-weight,
  in-image pixels.  All statements hold for an arbitrary weight map `w` (so for every
  aperture type and method).
-/
import PhotVerif.Model.ApSum
import PhotVerif.Props.C01
import Mathlib.Tactic.Ring
import PhotVerif.Gen.ForwardTable

namespace PhotVerif.C02
open PhotVerif PhotVerif.Gen PhotVerif.Model PhotVerif.C01

theorem mem_overlapPixels (ly lx sy sx : Slc) (y x j i : Int) :
    (y, x, j, i) ∈ overlapPixels ly lx sy sx ↔
      (ly.start ≤ y ∧ y < ly.stop ∧ lx.start ≤ x ∧ x < lx.stop ∧
        j = sy.start + (y - ly.start) ∧ i = sx.start + (x - lx.start)) := by
  unfold overlapPixels
  simp only [List.mem_flatMap, List.mem_range, List.mem_map, Prod.mk.injEq]
  constructor
  · rintro ⟨dj, hdj, di, hdi, rfl, rfl, rfl, rfl⟩
    omega
  · rintro ⟨h1, h2, h3, h4, rfl, rfl⟩
    exact ⟨(y - ly.start).toNat, by omega, (x - lx.start).toNat, by omega, by omega⟩

/-- the pixels of a returned overlap are those of box ∩ image, each with its indices in the box's frame -/
theorem mem_overlap {b : BBox} {ny nx : Int} {ly lx sy sx : Slc}
    (h : b.getOverlapSlices (ny, nx) = .ok (some ((ly, lx), (sy, sx)))) {y x j i : Int} :
    (y, x, j, i) ∈ overlapPixels ly lx sy sx ↔
      inBox b y x ∧ inImg ny nx y x ∧ j = y - b.iymin ∧ i = x - b.ixmin := by
  obtain ⟨⟨⟩, ⟨⟩⟩ := BBox.getOverlapSlices_some h
  simp only [mem_overlapPixels, inBox, inImg, sub_add_sub_cancel', max_le_iff, lt_min_iff]
  omega

/-- the good pixels are exactly: in the box, in the image, weight > 0, not masked -/
theorem goodPixels_spec (b : BBox) (w : Int → Int → Rat) (ny nx : Int) (mask : Int → Int → Bool)
    (px : List (Int × Int × Rat)) (h : goodPixels b w ny nx mask = .ok (some px)) (y x : Int) (wt : Rat) :
    (y, x, wt) ∈ px ↔ (inBox b y x ∧ inImg ny nx y x ∧ wt = w (y - b.iymin) (x - b.ixmin) ∧
      wt > 0 ∧ mask y x = false) := by
  unfold goodPixels at h
  split at h <;> cases h
  rename_i heq
  simp only [List.mem_filterMap, Prod.exists, mem_overlap heq, Option.ite_none_right_eq_some, Option.some.injEq,
    Prod.mk.injEq]
  constructor
  · rintro ⟨y, x, j, i, ⟨hb, hi, rfl, rfl⟩, hc, rfl, rfl, rfl⟩
    exact ⟨hb, hi, rfl, hc⟩
  · rintro ⟨hb, hi, rfl, hc⟩
    exact ⟨y, x, _, _, ⟨hb, hi, rfl, rfl⟩, hc, rfl, rfl, rfl⟩

/-- NaN is returned exactly when the aperture's box misses the image -/
theorem apSum_none_iff {β : Type} [Add β] [OfNat β 0] (smul : Rat → β → β) (b : BBox)
    (w : Int → Int → Rat) (ny nx : Int) (data : Int → Int → β) (mask : Int → Int → Bool) :
    apSum smul b w ny nx data mask = .ok none ↔ BBox.getOverlapSlices b (ny, nx) = .ok none := by
  unfold apSum goodPixels
  rcases b.getOverlapSlices (ny, nx) with _ | _ | _ <;> simp

theorem apSum_nan_iff_no_common_pixel {β : Type} [Add β] [OfNat β 0] (smul : Rat → β → β) (b : BBox)
    (w : Int → Int → Rat) (ny nx : Int) (data : Int → Int → β) (mask : Int → Int → Bool)
    (hx : b.ixmin < b.ixmax) (hy : b.iymin < b.iymax) (hny : 0 < ny) (hnx : 0 < nx) :
    apSum smul b w ny nx data mask = .ok none ↔ ¬ ∃ y x, inBox b y x ∧ inImg ny nx y x := by
  rw [apSum_none_iff, overlap_none_iff b ny nx hx hy hny hnx]

theorem wsum_blind {β : Type} [Add β] [OfNat β 0] (smul : Rat → β → β) (f g : Int → Int → β)
    (px : List (Int × Int × Rat)) (h : ∀ p ∈ px, f p.1 p.2.1 = g p.1 p.2.1) :
    wsum smul f px = wsum smul g px := by
  unfold wsum
  congr 1
  exact List.map_congr_left fun ⟨y, x, wt⟩ hp => congrArg (smul wt) (h _ hp)

/-- two images that agree on the good pixels give the same aperture sum (in particular a NaN
    under a masked or zero-weight pixel does not propagate) -/
theorem apSum_blind {β : Type} [Add β] [OfNat β 0] (smul : Rat → β → β) (b : BBox)
    (w : Int → Int → Rat) (ny nx : Int) (f g : Int → Int → β) (mask : Int → Int → Bool)
    (h : ∀ y x, inBox b y x → inImg ny nx y x → w (y - b.iymin) (x - b.ixmin) > 0 → mask y x = false →
      f y x = g y x) :
    apSum smul b w ny nx f mask = apSum smul b w ny nx g mask := by
  unfold apSum
  split <;> try rfl
  rename_i px hg
  rw [wsum_blind smul f g px]
  rintro ⟨y, x, wt⟩ hp
  obtain ⟨hb, hi, rfl, hpos, hm⟩ := (goodPixels_spec b w ny nx mask px hg y x wt).mp hp
  exact h y x hb hi hpos hm

/-- over the rationals the weighted sum is the plain finite sum `Σ w·data` … -/
theorem wsum_eq_sum (f : Int → Int → Rat) (px : List (Int × Int × Rat)) :
    wsum (· * ·) f px = (px.map fun p => p.2.2 * f p.1 p.2.1).sum :=
  List.sum_eq_foldl.symm

/-- … hence linear in the data -/
theorem wsum_linear (a : Rat) (f g : Int → Int → Rat) (px : List (Int × Int × Rat)) :
    wsum (· * ·) (fun y x => a * f y x + g y x) px = a * wsum (· * ·) f px + wsum (· * ·) g px := by
  simp only [wsum_eq_sum]
  induction px with
  | nil => simp
  | cons p px ih =>
    simp only [List.map_cons, List.sum_cons, ih]
    ring

/-- `area_overlap` = Σ w over the same good pixels whenever no weight is negative -/
theorem areaOverlap_eq_good_weight_sum (b : BBox) (w : Int → Int → Rat) (ny nx : Int)
    (mask : Int → Int → Bool) (hw : ∀ j i, 0 ≤ w j i) :
    areaOverlap b w ny nx mask =
      (match goodPixels b w ny nx mask with
       | .error e => .error e
       | .ok none => .ok none
       | .ok (some px) => .ok (some (px.map fun p => p.2.2).sum)) := by
  unfold areaOverlap goodPixels
  split <;> try rfl
  simp only
  congr 2
  rw [← List.sum_eq_foldl]
  induction overlapPixels _ _ _ _ with
  | nil => rfl
  | cons p l ih =>
    obtain ⟨y, x, j, i⟩ := p
    simp only [List.map_cons, List.sum_cons, List.filterMap_cons, ih]
    -- a pixel dropped for its weight alone has weight 0
    cases mask y x
    · rcases (hw j i).lt_or_eq with hp | hp
      · simp [hp]
      · simp [← hp]
    · simp

-- non-vacuity: 2×2 box straddling the corner of a 3×3 image, pixel (0, 0) in common
example : apSum (· * ·) ⟨-1, 1, -1, 1⟩ (fun _ _ => (1/2 : Rat)) 3 3 (fun y x => (y + 2 * x + 5 : Rat))
    (fun _ _ => false) = .ok (some (5/2)) := by decide +kernel

/-- TABLE OBLIGATION: in the modules of this property, every call that delegates to another photutils function, method or
    constructor passes on each value the caller holds under the callee's own parameter name (its own parameters, `self.<name>`
    attributes set in `__init__`) - dropped `subpixels`, `mask`, `connectivity`, `include_localbkg` ... keywords were a recurring
    kind of seeded change -/
theorem no_dropped_arguments : Gen.ForwardTable.droppedIn Gen.ForwardTable.scopeC02 = [] := by decide +kernel

end PhotVerif.C02
