/-
  C11 — Background2D mesh values: tiling, mask-blindness, exact reproduction of a constant image,
  and shift / scale equivariance of the box statistics (incl. the sigma-clip decisions), both as instances of
  an increasing affine map `x ↦ k·x + a`, `k > 0`.
-/
import PhotVerif.Model.Bkg
import PhotVerif.Proofs.Grid
import Mathlib.Algebra.BigOperators.Ring.List
import Mathlib.Data.List.GetD
import Mathlib.Tactic.FieldSimp
import Mathlib.Tactic.Ring
import Mathlib.Tactic.Linarith
import Mathlib.Tactic.Positivity
import Mathlib.Tactic.LinearCombination

namespace PhotVerif.C11
open PhotVerif.Model PhotVerif.Model.Bkg

/-- every pixel of the image lies in exactly one mesh box: box (y / by, x / bx) -/
theorem tiling_partition (c : Cfg) (p i j : Nat) :
    p ∈ boxPixels c i j ↔ p < c.ny * c.nx ∧ (p / c.nx) / c.boxY = i ∧ (p % c.nx) / c.boxX = j := by
  unfold boxPixels
  simp only [List.mem_filter, List.mem_range, Bool.and_eq_true, beq_iff_eq]

theorem div_lt_ceilDiv {q n b : Nat} (hb : 0 < b) (h : q < n) : q / b < (n + b - 1) / b := by
  rw [Nat.lt_iff_add_one_le, Nat.le_div_iff_mul_le hb, Nat.add_mul, Nat.one_mul]
  have := Nat.div_mul_le_self q b
  omega

theorem box_in_range (c : Cfg) (hby : 0 < c.boxY) (hbx : 0 < c.boxX) (p : Nat) (hp : p < c.ny * c.nx) :
    (p / c.nx) / c.boxY < nboxY c ∧ (p % c.nx) / c.boxX < nboxX c :=
  ⟨div_lt_ceilDiv hby (row_col_lt hp).1, div_lt_ceilDiv hbx (row_col_lt hp).2⟩

/-- the mesh value of a box does not depend on values stored under masked pixels (nor on non-finite ones) -/
theorem mesh_mask_blind (c : Cfg) (e : Estimator) (d d' : Nat → V) (mask : Nat → Bool) (i j : Nat)
    (h : ∀ p, mask p = false → d' p = d p) : meshBox c e d' mask i j = meshBox c e d mask i j := by
  have : goodVals d' mask (boxPixels c i j) = goodVals d mask (boxPixels c i j) :=
    List.filterMap_congr fun p _ => by cases hm : mask p <;> simp [h p, hm]
  unfold meshBox
  rw [this]

/-- the constants and comparison operators the model shares with the source (regenerated every run):
    shift equivariance of the SExtractor estimate needs medianFactor − meanFactor = 1 -/
theorem generated_consts :
    Gen.BkgConsts.sexMedianFactor - Gen.BkgConsts.sexMeanFactor = 1 ∧ 0 < Gen.BkgConsts.sexRatio ∧
    Gen.BkgConsts.sexRatioOp = "GtE" ∧ Gen.BkgConsts.sexZeroStdGivesMean = true ∧
    Gen.BkgConsts.sexMeanOverrideFirst = true ∧ Gen.BkgConsts.sexMedianOverrideGuarded = true ∧
    Gen.BkgConsts.thresholdIsFractionOfFullBox = true ∧ Gen.BkgConsts.exclusionRule = "lt-or-zero" ∧
    Gen.BkgConsts.exclusionComparesNgood = true ∧ Gen.BkgConsts.zoomClipsToMeshRange = true ∧
    Gen.BkgConsts.coverageGetsFill = true ∧ Gen.BkgConsts.thresholdExactWhenInteger = true := by
  decide +kernel

theorem sumQ_eq (l : List Rat) : sumQ l = l.sum := List.sum_eq_foldl.symm

theorem sum_map_affine (l : List Rat) (k a : Rat) : (l.map fun x => k * x + a).sum = k * l.sum + l.length * a := by
  induction l with
  | nil => simp
  | cons x l ih => simp only [List.map_cons, List.sum_cons, List.length_cons, ih]; push_cast; ring

theorem mean_affine (l : List Rat) (k a : Rat) (h : l ≠ []) : mean (l.map fun x => k * x + a) = k * mean l + a := by
  have : (l.length : Rat) ≠ 0 := Nat.cast_ne_zero.mpr (mt List.length_eq_zero_iff.mp h)
  rw [mean, mean, sumQ_eq, sumQ_eq, sum_map_affine, List.length_map]
  field_simp

theorem sqDev_affine (k a x c : Rat) :
    (k * x + a - (k * c + a)) * (k * x + a - (k * c + a)) = k * k * ((x - c) * (x - c)) := by ring

theorem variance_affine (l : List Rat) (k a : Rat) (h : l ≠ []) :
    variance (l.map fun x => k * x + a) = k * k * variance l := by
  rw [variance, variance, mean_affine l k a h, List.map_map, List.length_map, sumQ_eq, sumQ_eq, ← mul_div_assoc,
    ← List.sum_map_mul_left]
  congr 2
  exact List.map_congr_left fun x _ => sqDev_affine k a x (mean l)

theorem getD_map_of_lt {α β : Type} (s : List α) (f : α → β) (d : α) (d' : β) {i : Nat} (hi : i < s.length) :
    (s.map f).getD i d' = f (s.getD i d) := by
  rw [List.getD_eq_getElem _ _ hi, List.getD_eq_getElem _ _ (by simpa using hi), List.getElem_map]

/-- the median commutes with every order embedding that preserves midpoints: sorting commutes with it, and
    so does picking the middle element(s) -/
theorem median_map (l : List Rat) (f : Rat → Rat) (hf : ∀ a b, a ≤ b ↔ f a ≤ f b)
    (hadd : ∀ a b, f ((a + b) / 2) = (f a + f b) / 2) (h0 : l ≠ []) :
    median (l.map f) = f (median l) := by
  have hs : (l.map f).mergeSort (fun a b => decide (a ≤ b)) = (l.mergeSort fun a b => decide (a ≤ b)).map f :=
    (List.map_mergeSort fun a _ b _ => decide_eq_decide.mpr (hf a b)).symm
  have hpos : 0 < (l.mergeSort fun a b => decide (a ≤ b)).length := by
    rw [List.length_mergeSort]; exact List.length_pos_of_ne_nil h0
  unfold median
  simp only [hs, List.length_map]
  split
  · rw [getD_map_of_lt _ _ 0 0 (by omega)]
  · rw [getD_map_of_lt _ _ 0 0 (by omega), getD_map_of_lt _ _ 0 0 (by omega), hadd]

theorem median_affine (l : List Rat) (k a : Rat) (hk : 0 < k) (h : l ≠ []) :
    median (l.map fun x => k * x + a) = k * median l + a :=
  median_map l _ (fun x y => by rw [add_le_add_iff_right, mul_le_mul_iff_right₀ hk]) (fun x y => by ring) h

/-- the clipping test is scale-free: both sides of `(x − med)² ≤ σ²·var` pick up the factor k² -/
theorem inB_affine (s k a : Rat) (hk : 0 < k) (b : Rat × Rat) (x : Rat) :
    inB s (k * b.1 + a, k * k * b.2) (k * x + a) = inB s b x := by
  simp only [inB, sqDev_affine, mul_left_comm (s * s), mul_le_mul_iff_right₀ (mul_pos hk hk)]

theorem filter_inB_map (s : Rat) (f : Rat → Rat) (g : Rat × Rat → Rat × Rat)
    (h2 : ∀ b x, inB s (g b) (f x) = inB s b x) (b : Rat × Rat) (l : List Rat) :
    (l.map f).filter (inB s (g b)) = (l.filter (inB s b)).map f := by
  rw [List.filter_map]
  exact congrArg _ (List.filter_congr fun x _ => h2 b x)

/-- generic transport of the clipping through a map `f` on values with companion `g` on (median, variance) -/
theorem sigBounds_map (s : Rat) (f : Rat → Rat) (g : Rat × Rat → Rat × Rat)
    (h1 : ∀ l : List Rat, l ≠ [] → (median (l.map f), variance (l.map f)) = g (median l, variance l))
    (h2 : ∀ b x, inB s (g b) (f x) = inB s b x) :
    ∀ (n : Nat) (l : List Rat), sigBounds s n (l.map f) = (sigBounds s n l).map g := by
  intro n
  induction n with
  | zero => intro l; rfl
  | succ n ih =>
    intro l
    by_cases h : l = []
    · subst h; rfl
    · simp only [sigBounds, List.isEmpty_map, List.isEmpty_iff, h, if_false, h1 l h, filter_inB_map s f g h2,
        List.length_map, ih]
      split
      · rfl
      · split <;> rfl

theorem clipped_affine (c : Cfg) (l : List Rat) (k a : Rat) (hk : 0 < k) :
    clipped c (l.map fun x => k * x + a) = (clipped c l).map fun x => k * x + a := by
  unfold clipped
  cases c.sigma with
  | none => rfl
  | some s =>
    have h2 := inB_affine s k a hk
    simp only [sigclip]
    rw [sigBounds_map s _ (fun b => (k * b.1 + a, k * k * b.2))
      (fun l h => by rw [median_affine l k a hk h, variance_affine l k a h]) h2]
    cases sigBounds s c.maxiters l with
    | none => rfl
    | some b => exact filter_inB_map s _ _ h2 b l

theorem estimate_affine (e : Estimator) (l : List Rat) (k a : Rat) (hk : 0 < k) (h : l ≠ []) :
    estimate e (l.map fun x => k * x + a) = k * estimate e l + a := by
  cases e with
  | mean => exact mean_affine l k a h
  | median => exact median_affine l k a hk h
  | sextractor =>
    have hkk := mul_pos hk hk
    simp only [estimate, sextractor, mean_affine l k a h, median_affine l k a hk h, variance_affine l k a h]
    -- both tests are scale-free: k²·v = 0 ↔ v = 0, and (k·Δ)² ≥ r²·k²·v ↔ Δ² ≥ r²·v
    simp only [sqDev_affine, mul_left_comm _ (k * k), ge_iff_le, mul_le_mul_iff_right₀ hkk, mul_eq_zero, hkk.ne',
      false_or]
    split
    · rfl
    · split
      · rfl
      · linear_combination a * generated_consts.1

theorem mean_shift (l : List Rat) (a : Rat) (h : l ≠ []) : mean (l.map (· + a)) = mean l + a := by
  simpa only [one_mul] using mean_affine l 1 a h

theorem variance_shift (l : List Rat) (a : Rat) (h : l ≠ []) : variance (l.map (· + a)) = variance l := by
  simpa only [one_mul] using variance_affine l 1 a h

theorem median_shift (l : List Rat) (a : Rat) (h : l ≠ []) : median (l.map (· + a)) = median l + a := by
  simpa only [one_mul] using median_affine l 1 a one_pos h

/- without a shift the empty list is no exception: both sides are 0/0 = 0 -/
theorem mean_scale (l : List Rat) (k : Rat) : mean (l.map (k * ·)) = k * mean l := by
  rcases eq_or_ne l [] with rfl | h
  · simp [mean, sumQ]
  · simpa only [add_zero] using mean_affine l k 0 h

theorem variance_scale (l : List Rat) (k : Rat) : variance (l.map (k * ·)) = k * k * variance l := by
  rcases eq_or_ne l [] with rfl | h
  · simp [variance, sumQ]
  · simpa only [add_zero] using variance_affine l k 0 h

theorem median_scale (l : List Rat) (k : Rat) (hk : 0 < k) (h : l ≠ []) : median (l.map (k * ·)) = k * median l := by
  simpa only [add_zero] using median_affine l k 0 hk h

/-- adding a constant to the data adds it to the background estimate of every box and
    leaves the variance unchanged; multiplying by k > 0 scales the estimate by k and the variance by k² (`variance_affine`) —
    including the sigma-clip decisions, for the mean, median and SExtractor estimators -/
theorem clipped_shift (c : Cfg) (l : List Rat) (a : Rat) : clipped c (l.map (· + a)) = (clipped c l).map (· + a) := by
  simpa only [one_mul] using clipped_affine c l 1 a one_pos

theorem clipped_scale (c : Cfg) (l : List Rat) (k : Rat) (hk : 0 < k) :
    clipped c (l.map (k * ·)) = (clipped c l).map (k * ·) := by
  simpa only [add_zero] using clipped_affine c l k 0 hk

theorem estimate_shift (e : Estimator) (l : List Rat) (a : Rat) (h : l ≠ []) :
    estimate e (l.map (· + a)) = estimate e l + a := by
  simpa only [one_mul] using estimate_affine e l 1 a one_pos h

theorem estimate_scale (e : Estimator) (l : List Rat) (k : Rat) (hk : 0 < k) (h : l ≠ []) :
    estimate e (l.map (k * ·)) = k * estimate e l := by
  simpa only [add_zero] using estimate_affine e l k 0 hk h

/-- defect F41 in binary64 (kernel-evaluated): the former spelling `(1 - p/100) * npix` overshoots the integer threshold 3 for
    p = 70, npix = 10, so a box with exactly 70 % masked pixels (3 good ones) was excluded; `(100 - p) * npix / 100` is exact -/
example : ((1 - (70.0 : Float) / 100.0) * 10.0 > 3.0) = true := by decide +kernel
example : (((100.0 : Float) - 70.0) * 10.0 / 100.0 == 3.0) = true := by decide +kernel

theorem excluded_iff (c : Cfg) (n : Nat) :
    excluded c n = true ↔ ((n : Rat) < (1 - c.excludePct / 100) * (c.boxY * c.boxX : Nat) ∨ n = 0) := by
  have : (Gen.BkgConsts.exclusionRule == "le") = false := by decide
  simp [excluded, this]

/-- a completely unmasked, unclipped full box is never excluded, for every exclude_percentile in [0, 100]
    (with `ngood <= threshold` this fails at exclude_percentile = 0: defect F29) -/
theorem full_box_included (c : Cfg) (h0 : 0 ≤ c.excludePct) (hb : 0 < c.boxY * c.boxX) :
    excluded c (c.boxY * c.boxX) = false := by
  rw [Bool.eq_false_iff]
  intro h
  rcases (excluded_iff c _).mp h with h | h
  · exact (h.trans_le (mul_le_of_le_one_left (Nat.cast_nonneg _) (sub_le_self 1 (div_nonneg h0 (by norm_num))))).false
  · omega

/-- a box without any good pixel is always excluded -/
theorem empty_box_excluded (c : Cfg) : excluded c 0 = true := (excluded_iff c 0).mpr (Or.inr rfl)

theorem mean_replicate (n : Nat) (a : Rat) (hn : 0 < n) : mean (List.replicate n a) = a := by
  rw [mean, sumQ_eq, List.sum_replicate, List.length_replicate, nsmul_eq_mul,
    mul_div_cancel_left₀ _ (Nat.cast_ne_zero.mpr hn.ne')]

theorem variance_replicate (n : Nat) (a : Rat) (hn : 0 < n) : variance (List.replicate n a) = 0 := by
  rw [variance, mean_replicate n a hn, List.map_replicate, sumQ_eq, List.sum_replicate, sub_self, mul_zero,
    smul_zero, zero_div]

theorem median_replicate (n : Nat) (a : Rat) (hn : 0 < n) : median (List.replicate n a) = a := by
  have hs : (List.replicate n a).mergeSort (fun x y => decide (x ≤ y)) = List.replicate n a :=
    List.mergeSort_of_pairwise (List.pairwise_replicate.mpr (.inr (decide_eq_true le_rfl)))
  unfold median
  simp only [hs, List.length_replicate]
  split
  · exact List.getD_replicate _ (by omega)
  · rw [List.getD_replicate _ (by omega), List.getD_replicate _ (by omega), add_self_div_two]

/-- every box statistic of a constant box is that constant, its variance is 0 and nothing is clipped -/
theorem constant_box_exact (c : Cfg) (e : Estimator) (n : Nat) (a : Rat) (hn : 0 < n) :
    clipped c (List.replicate n a) = List.replicate n a ∧
    estimate e (List.replicate n a) = a ∧ variance (List.replicate n a) = 0 := by
  have hmean := mean_replicate n a hn
  have hmed := median_replicate n a hn
  have hvar := variance_replicate n a hn
  refine ⟨?_, ?_, hvar⟩
  · have hfilt (s : Rat) : (List.replicate n a).filter (inB s (a, 0)) = List.replicate n a :=
      List.filter_eq_self.mpr fun x hx => by simp [inB, List.eq_of_mem_replicate hx]
    unfold clipped
    cases c.sigma with
    | none => rfl
    | some s =>
      cases hm : c.maxiters with
      | zero => rfl
      -- the first pass computes the bounds (a, 0); they drop nothing, so it is the last pass, and the final filter keeps all too
      | succ k => simp [sigclip, sigBounds, hn.ne', hmed, hvar, hfilt]
  · cases e with
    | mean => exact hmean
    | median => exact hmed
    | sextractor => simp [estimate, sextractor, hvar, hmean]

theorem sum_weighted_bounds (ws : List (Rat × Rat)) (lo hi : Rat)
    (hw : ∀ t ∈ ws, 0 ≤ t.1) (hv : ∀ t ∈ ws, lo ≤ t.2 ∧ t.2 ≤ hi) :
    lo * (ws.map (·.1)).sum ≤ (ws.map fun t => t.1 * t.2).sum ∧
    (ws.map fun t => t.1 * t.2).sum ≤ hi * (ws.map (·.1)).sum := by
  rw [mul_comm lo, mul_comm hi, ← List.sum_map_mul_right, ← List.sum_map_mul_right]
  exact ⟨List.sum_le_sum fun t ht => mul_le_mul_of_nonneg_left (hv t ht).1 (hw t ht),
    List.sum_le_sum fun t ht => mul_le_mul_of_nonneg_left (hv t ht).2 (hw t ht)⟩

/-- Shepard IDW (fill of excluded meshes and BkgIDWInterpolator upscaling): with non-negative distances and
    reg ≥ 0 the interpolated value is a convex combination, hence within the range of the neighbour values -/
theorem idw_within_range (dvs : List (Rat × Rat × Bool)) (reg lo hi : Rat) (v : Rat)
    (hd : ∀ t ∈ dvs, 0 ≤ t.1 + reg) (hv : ∀ t ∈ dvs, lo ≤ t.2.1 ∧ t.2.1 ≤ hi)
    (h : idwPoint dvs reg = some v) : lo ≤ v ∧ v ≤ hi := by
  unfold idwPoint at h
  split at h
  · cases h
  · split at h
    · rename_i t ht
      cases h
      exact hv t (List.mem_of_find?_eq_some ht)
    · simp only [sumQ_eq] at h
      split at h
      · rename_i hpos
        cases h
        have hb := sum_weighted_bounds (dvs.map fun t => (1 / (t.1 + reg), t.2.1)) lo hi
          (by simp only [List.forall_mem_map]; exact fun u hu => div_nonneg zero_le_one (hd u hu))
          (by simp only [List.forall_mem_map]; exact hv)
        exact ⟨(le_div_iff₀ hpos).mpr hb.1, (div_le_iff₀ hpos).mpr hb.2⟩
      · cases h

/-- the clipped spline interpolator never leaves the range of the mesh -/
theorem clip_within_range (lo hi x : Rat) (h : lo ≤ hi) : lo ≤ clipTo lo hi x ∧ clipTo lo hi x ≤ hi := by
  unfold clipTo
  split
  · exact ⟨le_refl _, h⟩
  · split
    · exact ⟨h, le_refl _⟩
    · constructor <;> linarith

theorem clip_id_in_range (lo hi x : Rat) (h1 : lo ≤ x) (h2 : x ≤ hi) : clipTo lo hi x = x := by
  rw [clipTo, if_neg h1.not_gt, if_neg h2.not_gt]

theorem coverage_gets_fill (fill x : Rat) : finalPixel true fill x = fill ∧ finalPixel false fill x = x := ⟨rfl, rfl⟩

-- non-vacuity (evaluated, a test): 2-sigma clipping of 1,2,3,4,100 rejects 100
#guard sigclip 2 5 [1, 2, 3, 4, 100] == [1, 2, 3, 4]
-- astropy's re-admission: 2 and 2 are dropped in pass 1, but lie inside the final bounds
#guard sigclip 1 3 [100, 3, 3, 8, 40, 9, 8, 3, 2, 2, 7, 8, 5] == [3, 3, 3, 2, 2]
#guard nboxY { ny := 7, nx := 5, boxY := 3, boxX := 2, excludePct := 10, sigma := none, maxiters := 0 } == 3

end PhotVerif.C11
