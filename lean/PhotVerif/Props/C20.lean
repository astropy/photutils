/-
  C20 — logic of the isophote fitter: the scalar and vectorised coordinate transforms agree, the list of
  semi-major axes is strictly increasing and inside the requested range, fixed parameters are never corrected,
  and the elliptical radius stays between the semi-minor and semi-major axis.
-/
import PhotVerif.Model.Isophote
import PhotVerif.Gen.IsophoteTable
import PhotVerif.Gen.IsophoteFns
import PhotVerif.Gen.ForwardTable
import PhotVerif.Proofs.FieldInst
import Mathlib.Data.List.Sort
import Mathlib.Tactic.Positivity
import Mathlib.Tactic.Ring

namespace PhotVerif.C20
open PhotVerif PhotVerif.Model.Isophote

section polar
variable {α : Type} [Field α] [LinearOrder α] [IsStrictOrderedRing α] [MathOps α]

/-- the two implementations of `EllipseGeometry.to_polar` compute the same (radius, angle) for every input -/
theorem twins_agree (x0 y0 pa x y : α) : toPolarScalar x0 y0 pa x y = toPolarVecElem x0 y0 pa x y := by
  unfold toPolarScalar toPolarVecElem
  -- the three quadrant tests exclude each other, so applying the masks in turn is the if/elif chain; written in
  -- `x1 < 0` and `y1 < 0`, the two signs decide all of them
  simp only [ge_iff_le, ← not_lt, decide_eq_true_eq]
  by_cases hx : x - x0 < 0 <;> by_cases hy : y - y0 < 0 <;>
    simp only [hx, hy, not_true_eq_false, not_false_eq_true, and_self, and_false, false_and, if_true, if_false]

end polar

theorem upd_gt (lin : Bool) (s step : Rat) (hs : 0 < s) (hst : 0 < step) : s < updateSma lin s step ∧ 0 < updateSma lin s step := by
  have := mul_pos hs hst
  cases lin <;> simp only [updateSma, Bool.false_eq_true, if_false, if_true] <;> constructor <;> linarith

/-- the outward run: strictly increasing from the starting value, every later value below maxsma -/
theorem outward_spec (lin : Bool) (step : Rat) (hst : 0 < step) (maxsma : Option Rat) (ev : Nat → Ev) :
    ∀ (fuel i : Nat) (s : Rat), 0 < s →
      List.IsChain (· < ·) (outward lin step maxsma ev fuel i s) ∧
      ∀ e ∈ outward lin step maxsma ev fuel i s, s ≤ e ∧ (e = s ∨ ∀ m, maxsma = some m → e < m) := by
  intro fuel i s hs
  -- the loop goes on only when the next value `s'` is below maxsma (`hm`); `l` is what it then emits from `s'`
  have go {s s' : Rat} {l : List Rat} (hlt : s < s') (hm : ∀ m, maxsma = some m → s' < m)
      (ih : l.IsChain (· < ·) ∧ ∀ e ∈ l, s' ≤ e ∧ (e = s' ∨ ∀ m, maxsma = some m → e < m)) :
      (s :: l).IsChain (· < ·) ∧ ∀ e ∈ s :: l, s ≤ e ∧ (e = s ∨ ∀ m, maxsma = some m → e < m) := by
    refine ⟨ih.1.cons fun y hy => hlt.trans_le (ih.2 y (List.mem_of_mem_head? hy)).1,
      List.forall_mem_cons.mpr ⟨⟨le_rfl, .inl rfl⟩, fun e he => ?_⟩⟩
    obtain ⟨h1, h2⟩ := ih.2 e he
    exact ⟨hlt.le.trans h1, .inr (h2.elim (· ▸ hm) id)⟩
  fun_induction outward lin step maxsma ev fuel i s with
  | case1 | case2 | case3 => simp
  | case4 n i s next _ m hm h ih =>
    subst hm
    have hu := upd_gt lin s step hs hst
    exact go hu.1 (fun _ h' => Option.some.inj h' ▸ not_le.mp h) (ih hu.2)
  | case5 n i s next _ hm ih =>
    subst hm
    have hu := upd_gt lin s step hs hst
    exact go hu.1 nofun (ih hu.2)

/-- the inward run, for any step that shrinks the values above `lo`: strictly decreasing from the starting value,
    every value above `lo` -/
theorem inward_spec (lin : Bool) (istep lo : Rat) (hlo : 0 < lo) (ev : Nat → Ev)
    (hdec : ∀ s, lo < s → updateSma lin s istep < s) :
    ∀ (fuel i : Nat) (s : Rat), lo < s →
      List.IsChain (· > ·) (inwardLoop lin istep lo ev fuel i s) ∧
      ∀ e ∈ inwardLoop lin istep lo ev fuel i s, e ≤ s ∧ lo < e := by
  intro fuel i s hs
  fun_induction inwardLoop lin istep lo ev fuel i s with
  | case1 | case2 | case3 => simp [hs]
  | case4 n i s next _ h ih =>
    obtain ⟨c, hall⟩ := ih (not_le.mp h)
    have hd : next < s := hdec s hs
    exact ⟨c.cons fun y hy => (hall y (List.mem_of_mem_head? hy)).1.trans_lt hd,
      List.forall_mem_cons.mpr ⟨⟨le_rfl, hs⟩, fun e he => ⟨((hall e he).1.trans_lt hd).le, (hall e he).2⟩⟩⟩

theorem reset_dec (lin : Bool) (step : Rat) (hst : 0 < step) (a s : Rat) (hs : 0 < s) :
    updateSma lin s (resetSma lin a step).2 < s := by
  cases lin
  · simp only [updateSma, resetSma, Bool.false_eq_true, if_false]
    refine mul_lt_of_lt_one_right hs ?_
    rw [add_sub_cancel, div_lt_one (by linarith)]
    linarith
  · simp only [updateSma, resetSma, if_true]
    linarith

theorem reset_fst (lin : Bool) (a s step : Rat) : (resetSma lin s step).1 = updateSma lin s (resetSma lin a step).2 := by
  cases lin <;> simp only [updateSma, resetSma, Bool.false_eq_true, if_false, if_true] <;> ring

theorem fitted_parts (c : Cfg) (evOut evIn : Nat → Ev) (fuel : Nat) (hg : c.guardFirstInward = true)
    (hst : 0 < c.step) (hs0 : 0 < c.sma0) :
    ∃ out inw, fittedSmas c evOut evIn fuel = out ++ inw ++ (if c.minsma = 0 then [0] else []) ∧
      out.Pairwise (· < ·) ∧ (∀ e ∈ out, c.sma0 ≤ e ∧ (e = c.sma0 ∨ ∀ m, c.maxsma = some m → e < m)) ∧
      inw.Pairwise (· > ·) ∧ ∀ e ∈ inw, max c.minsma (1 / 2) < e ∧ e < c.sma0 := by
  obtain ⟨co, ho⟩ := outward_spec c.linear c.step hst c.maxsma evOut fuel 0 c.sma0 hs0
  refine ⟨_, _, rfl, List.isChain_iff_pairwise.mp co, ho, ?_⟩
  simp only [hg, Bool.true_and, decide_eq_true_eq]
  split_ifs with hlo
  · simp
  · have hpos : (0 : Rat) < max c.minsma (1 / 2) := lt_max_of_lt_right (by norm_num)
    obtain ⟨ci, hi⟩ := inward_spec c.linear _ _ hpos evIn
      (fun s hs => reset_dec c.linear c.step hst c.sma0 s (hpos.trans hs)) fuel 0 _ (not_le.mp hlo)
    refine ⟨List.isChain_iff_pairwise.mp ci, fun e he => ⟨(hi e he).2, (hi e he).1.trans_lt ?_⟩⟩
    rw [reset_fst c.linear c.sma0]
    exact reset_dec c.linear c.step hst c.sma0 c.sma0 hs0

/-- with the inward guard, every fitted semi-major axis other than the starting value lies strictly
    between max(minsma, 1/2) and maxsma; the central pixel (sma = 0) appears only for minsma = 0 -/
theorem fitted_in_range (c : Cfg) (evOut evIn : Nat → Ev) (fuel : Nat) (hg : c.guardFirstInward = true)
    (hst : 0 < c.step) (hs0 : 0 < c.sma0) (e : Rat) (he : e ∈ fittedSmas c evOut evIn fuel) :
    (e = 0 ∧ c.minsma = 0) ∨ e = c.sma0 ∨
      (c.sma0 < e ∧ ∀ m, c.maxsma = some m → e < m) ∨ (max c.minsma (1 / 2) < e ∧ e < c.sma0) := by
  obtain ⟨out, inw, heq, -, hout, -, hinw⟩ := fitted_parts c evOut evIn fuel hg hst hs0
  simp only [heq, List.mem_append] at he
  rcases he with (he | he) | he
  · obtain ⟨h1, h2 | h2⟩ := hout e he
    · exact .inr (.inl h2)
    · exact h1.eq_or_lt.elim (fun h => .inr (.inl h.symm)) (fun h => .inr (.inr (.inl ⟨h, h2⟩)))
  · exact .inr (.inr (.inr (hinw e he)))
  · split_ifs at he with h0
    · exact .inl ⟨List.mem_singleton.mp he, h0⟩
    · cases he

/-- the returned list is sorted and has no repeated semi-major axis -/
theorem sorted_strict (c : Cfg) (evOut evIn : Nat → Ev) (fuel : Nat) (hg : c.guardFirstInward = true)
    (hst : 0 < c.step) (hs0 : 0 < c.sma0) :
    (sortedSmas c evOut evIn fuel).Pairwise (· < ·) := by
  obtain ⟨out, inw, heq, co, hout, ci, hinw⟩ := fitted_parts c evOut evIn fuel hg hst hs0
  -- sorting by ≤ a list without repetition: outward values are ≥ sma0, inward ones < sma0 and > 0, the central pixel is 0
  have hnodup : (fittedSmas c evOut evIn fuel).Nodup := by
    rw [heq, List.nodup_append, List.nodup_append]
    refine ⟨⟨co.imp ne_of_lt, ci.imp ne_of_gt, fun a ha b hb hab => ?_⟩, ?_, fun a ha b hb hab => ?_⟩
    · exact ((hab ▸ (hinw b hb).2).trans_le (hout a ha).1).false
    · split_ifs
      exacts [List.nodup_singleton _, List.nodup_nil]
    · have hb0 : b = 0 := by
        split_ifs at hb
        exacts [List.mem_singleton.mp hb, nomatch hb]
      have ha0 : 0 < a := (List.mem_append.mp ha).elim (fun h => hs0.trans_le (hout a h).1)
        (fun h => (lt_max_of_lt_right (by norm_num)).trans (hinw a h).1)
      exact ha0.ne' (hab.trans hb0)
  exact (List.sortedLE_mergeSort.sortedLT_of_nodup ((List.mergeSort_perm _ _).nodup_iff.mpr hnodup)).pairwise

/-- without the guard the first inward value can lie below minsma (defect F32): sma0 = 10, step = 0.1, minsma = 9.5 -/
example : (9 + 1/11 : Rat) ∈ fittedSmas ⟨10, 1/10, false, 19/2, some 14, false⟩ (fun _ => .ok) (fun _ => .ok) 20 := by
  decide +kernel

/-- the growth loop in the source has the guard (regenerated from ellipse.py on every run) -/
theorem source_has_inward_guard : Gen.IsophoteTable.guardsFirstInward = true ∧
    Gen.IsophoteTable.outwardBreaksAtMaxsma = true ∧ Gen.IsophoteTable.inwardBreaksAtMinsma = true ∧
    Gen.IsophoteTable.sortsResult = true ∧ Gen.IsophoteTable.fixVectorOrder = true ∧
    Gen.IsophoteTable.freeCoeffsMaskedByFix = true ∧ Gen.IsophoteTable.growthFormulas = true := by decide +kernel

theorem foldl_select_mem {β : Type} (f : Option β → β → Option β) (hf : ∀ o i, f o i = some i ∨ f o i = o)
    (l : List β) (r : β) (h : l.foldl f none = some r) : r ∈ l := by
  refine List.foldlRecOn l f (b := none) (motive := fun o => o = some r → r ∈ l) (fun h => nomatch h)
    (fun o ih i hi h => ?_) h
  rcases hf o i with e | e
  · rw [e] at h; cases h; exact hi
  · exact ih (e ▸ h)

theorem choose_mem (amps : List Rat) (fixed : List Bool) (k : Nat) (h : chooseCorrector amps fixed = some k) :
    k < amps.length ∧ fixed.getD k false = false := by
  have hk := foldl_select_mem _ (fun o i => by
    cases o with
    | none => exact .inl rfl
    | some b => dsimp only; split_ifs; exacts [.inl rfl, .inr rfl]) _ k h
  simpa using hk

theorem applyCorrector_honours_fix (fc fp fe : Bool) (g : Geo) (k : Nat) (nx ny npa neps : Rat)
    (hk : (fixVector fc fp fe).getD k false = false) :
    (fc = true → (applyCorrector g k nx ny npa neps).x0 = g.x0 ∧ (applyCorrector g k nx ny npa neps).y0 = g.y0) ∧
    (fp = true → (applyCorrector g k nx ny npa neps).pa = g.pa) ∧
    (fe = true → (applyCorrector g k nx ny npa neps).eps = g.eps) := by
  rcases k with _ | _ | _ | _ | k <;> simp [fixVector] at hk <;> simp [applyCorrector, hk]

/-- An iteration changes free parameters only (to whatever the oracle says) and then repairs the geometry: what every
    such step preserves, `iterate` preserves. -/
theorem iterate_preserves {h mx mn : Rat} {fc fp fe : Bool} (P : Geo → Prop)
    (step : ∀ g g₁, (fc = true → g₁.x0 = g.x0 ∧ g₁.y0 = g.y0) ∧ (fp = true → g₁.pa = g.pa) ∧ (fe = true → g₁.eps = g.eps) →
      P g → P (checkConditions h mx mn g₁))
    (oracle : Nat → List Rat × (Rat × Rat × Rat × Rat)) (n : Nat) (g : Geo) (hg : P g) :
    P (iterate h mx mn (fixVector fc fp fe) oracle n g) := by
  induction n generalizing g with
  | zero => exact hg
  | succ n ih =>
    simp only [iterate]
    cases hc : chooseCorrector (oracle n).1 (fixVector fc fp fe) with
    | none => exact hg
    | some k => exact ih _ (step g _ (applyCorrector_honours_fix fc fp fe g k _ _ _ _ (choose_mem _ _ k hc).2) hg)

theorem check_id_of_pos (h mx mn : Rat) (g : Geo) (he : 0 < g.eps) : checkConditions h mx mn g = g := by
  unfold checkConditions
  simp only
  rw [if_neg (not_lt.mpr (le_of_lt he)), if_neg (ne_of_gt he)]

theorem check_center (h mx mn : Rat) (g : Geo) : (checkConditions h mx mn g).x0 = g.x0 ∧ (checkConditions h mx mn g).y0 = g.y0 := by
  simp only [checkConditions, apply_ite Geo.x0, apply_ite Geo.y0, ite_self, and_self]

theorem check_pa (h mx mn : Rat) (g : Geo) : ∃ m : Int, (checkConditions h mx mn g).pa = g.pa + m * h := by
  simp only [checkConditions, apply_ite Geo.pa, ite_self]
  split_ifs
  exacts [⟨1, by simp⟩, ⟨-1, by simp; ring⟩, ⟨0, by simp⟩]

/-- through any number of iterations, with any harmonic amplitudes and any proposed
    corrections, a fixed centre keeps exactly its initial value -/
theorem iterate_honours_fix_center (h mx mn : Rat) (fp fe : Bool) (oracle : Nat → List Rat × (Rat × Rat × Rat × Rat)) (n : Nat) (g : Geo) :
    (iterate h mx mn (fixVector true fp fe) oracle n g).x0 = g.x0 ∧ (iterate h mx mn (fixVector true fp fe) oracle n g).y0 = g.y0 :=
  iterate_preserves (fun g' => g'.x0 = g.x0 ∧ g'.y0 = g.y0) (fun _ g₁ hf hg' =>
    have hc := check_center h mx mn g₁
    ⟨hc.1.trans ((hf.1 rfl).1.trans hg'.1), hc.2.trans ((hf.1 rfl).2.trans hg'.2)⟩) oracle n g ⟨rfl, rfl⟩

/-- a fixed positive ellipticity keeps exactly its value, and then a
    fixed position angle does too (no zero crossing can occur) -/
theorem iterate_honours_fix_eps (h mx mn : Rat) (fc fp : Bool) (oracle : Nat → List Rat × (Rat × Rat × Rat × Rat)) (n : Nat) (g : Geo)
    (he : 0 < g.eps) :
    (iterate h mx mn (fixVector fc fp true) oracle n g).eps = g.eps ∧
    (fp = true → (iterate h mx mn (fixVector fc fp true) oracle n g).pa = g.pa) :=
  iterate_preserves (fun g' => g'.eps = g.eps ∧ (fp = true → g'.pa = g.pa)) (fun _ g₁ hf hg' => by
    have heps := (hf.2.2 rfl).trans hg'.1
    -- the ellipticity is still the initial positive one, so the repairs do nothing
    rw [check_id_of_pos h mx mn g₁ (heps ▸ he)]
    exact ⟨heps, fun hfp => (hf.2.1 hfp).trans (hg'.2 hfp)⟩) oracle n g ⟨rfl, fun _ => rfl⟩

/-- with a free ellipticity a fixed position angle can only change by quarter turns (the re-labelling of an ellipse
    whose ellipticity crossed zero): it stays in the same axis frame -/
theorem iterate_fix_pa_mod_quarter_turn (h mx mn : Rat) (fc fe : Bool) (oracle : Nat → List Rat × (Rat × Rat × Rat × Rat)) (n : Nat) (g : Geo) :
    ∃ k : Int, (iterate h mx mn (fixVector fc true fe) oracle n g).pa = g.pa + k * h :=
  iterate_preserves (fun g' => ∃ j : Int, g'.pa = g.pa + j * h) (fun _ g₁ hf ⟨j, hj⟩ => by
    obtain ⟨m, hm⟩ := check_pa h mx mn g₁
    exact ⟨j + m, by rw [hm, hf.2.1 rfl, hj]; push_cast; ring⟩) oracle n g ⟨0, by simp⟩

/-- r(θ)² = sma²(1−eps)² / ((1−eps)² cos² + sin²): the denominator lies between (1−eps)² and 1, so the radius
    lies between the semi-minor axis sma(1−eps) and the semi-major axis sma -/
theorem radius_between_axes (sma eps c s : Rat) (h : c * c + s * s = 1) (he0 : 0 ≤ eps) (he1 : eps < 1) :
    (1 - eps) * (1 - eps) ≤ (radius2 sma eps c s).2 ∧ (radius2 sma eps c s).2 ≤ 1 := by
  unfold radius2
  -- with q = (1−eps)²: denominator − q = (1−q)·s² and 1 − denominator = (1−q)·c², using q·(c² + s²) = q
  have hq : 0 ≤ 1 - (1 - eps) * (1 - eps) := by linarith [mul_nonneg he0 (sub_nonneg.mpr he1.le)]
  have hs := mul_nonneg hq (mul_self_nonneg s)
  have hc := mul_nonneg hq (mul_self_nonneg c)
  have hh := congrArg ((1 - eps) * (1 - eps) * ·) h
  constructor <;> linarith

/-- the translation writes Python's `1.0` as a scientific literal -/
theorem one_lit : (1.0 : Rat) = 1 := by norm_num

/-- T-py tie: `EllipseGeometry.update_sma`, translated from geometry.py on every run, is the model's `updateSma` -/
theorem generated_updateSma [MathOps Rat] (lin : Bool) (sma step : Rat) :
    Gen.EGeom.updateSma (α := Rat) ⟨sma, lin⟩ step = updateSma lin sma step := by
  cases lin <;> simp [Gen.EGeom.updateSma, updateSma, one_lit]

theorem generated_resetSma [MathOps Rat] (lin : Bool) (sma step : Rat) :
    Gen.EGeom.resetSma (α := Rat) ⟨sma, lin⟩ step = resetSma lin sma step := by
  cases lin <;> simp [Gen.EGeom.resetSma, resetSma, one_lit]

/-- TABLE OBLIGATION: see `Gen/ForwardTable.lean` - every delegating call in the isophote modules passes on each value the caller
    holds under the callee's own parameter name (parameters, locals, `self.<name>` attributes).  Seed C20-r7 dropped the local
    `fixed_parameters` from `minimum_amplitude_sample.update(...)`, which silently frees every fixed parameter. -/
theorem no_dropped_arguments : Gen.ForwardTable.droppedIn Gen.ForwardTable.scopeC20 =
    -- intended: the central-pixel call `fit_isophote(0.0, ...)` does not use `linear`; the gradient sample is built from the
    -- individual geometry fields at a different sma, not from the geometry object
    [("isophote/ellipse.py", "fit_image", "fit_isophote", "linear"),
     ("isophote/sample.py", "EllipseSample._get_gradient", "EllipseSample", "geometry")] := by decide +kernel

end PhotVerif.C20
